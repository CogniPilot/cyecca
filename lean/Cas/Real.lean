/-
  Cas/Real.lean — the real-number reading of CasADi's scalar opcodes.

  This instance is the semantic half of the trusted base: it says what each opcode
  *means* over ℝ.  Floating-point rounding, signed zeros, NaN and ±∞ are not
  modelled; partial operations are totalised the Mathlib way (x/0 = 0, sqrt of a
  negative = 0, …) and therefore every theorem that goes through such a node must
  carry (or prove) the corresponding well-definedness hypothesis.
-/
import Cas.Num
import Cas.Attr
import Mathlib.Analysis.SpecialFunctions.Trigonometric.Arctan
import Mathlib.Analysis.SpecialFunctions.Trigonometric.Inverse
import Mathlib.Analysis.SpecialFunctions.Complex.Arg
import Mathlib.Analysis.SpecialFunctions.Pow.Real
import Mathlib.Analysis.SpecialFunctions.Sqrt
import Mathlib.Algebra.Order.Floor.Defs
import Mathlib.Algebra.Order.Round
import Mathlib.Tactic.Ring
import Mathlib.Tactic.NormNum
import Mathlib.Tactic.FieldSimp
import Mathlib.Tactic.Linarith
import Mathlib.Tactic.FinCases
import Mathlib.LinearAlgebra.Matrix.Notation
import Mathlib.Data.Matrix.Mul
import Mathlib.Data.Matrix.Reflection

noncomputable section

namespace CasReal

/-- 0/1 encoding of a proposition -/
def b2r (p : Prop) [Decidable p] : ℝ := if p then 1 else 0

/-- C `atan2(y, x)`: the argument of x + i y in (-π, π]  (signed zeros not modelled) -/
def atan2 (y x : ℝ) : ℝ := Complex.arg ⟨x, y⟩

/-- round to nearest integer, ties to even (C `remainder`'s quotient) -/
def roundHalfEven (q : ℝ) : ℤ :=
  if Int.fract q = 1 / 2 then (if Even ⌊q⌋ then ⌊q⌋ else ⌊q⌋ + 1) else round q

def remainder (x y : ℝ) : ℝ := x - (roundHalfEven (x / y) : ℝ) * y

/-- C `fmod`: x - trunc(x/y) * y -/
def fmod (x y : ℝ) : ℝ :=
  let q := x / y
  x - (if q < 0 then (⌈q⌉ : ℝ) else (⌊q⌋ : ℝ)) * y

def sign (x : ℝ) : ℝ := if x < 0 then -1 else if 0 < x then 1 else 0

end CasReal

open Classical in
instance : CasNum ℝ where
  ofInt n := (n : ℝ)
  ofDyadic m e := (m : ℝ) * (2 : ℝ) ^ e
  nonFinite _ := 0   -- no real value: only reachable through x/0 in a branch the program does not select;
                     -- every theorem through such a node needs the branch condition (stated in DESIGN trusted base)
  add := (· + ·)
  sub := (· - ·)
  mul := (· * ·)
  div := (· / ·)
  neg := (- ·)
  sq x := x * x
  twice x := 2 * x
  inv x := 1 / x
  sqrt := Real.sqrt
  sin := Real.sin
  cos := Real.cos
  tan := Real.tan
  asin := Real.arcsin
  acos := Real.arccos
  atan := Real.arctan
  atan2 := CasReal.atan2
  exp := Real.exp
  log := Real.log
  pow := Real.rpow
  fabs x := |x|
  sign := CasReal.sign
  floor x := (⌊x⌋ : ℝ)
  ceil x := (⌈x⌉ : ℝ)
  fmin := min
  fmax := max
  fmod := CasReal.fmod
  remainder := CasReal.remainder
  lt a b := CasReal.b2r (a < b)
  le a b := CasReal.b2r (a ≤ b)
  eq a b := CasReal.b2r (a = b)
  ne a b := CasReal.b2r (a ≠ b)
  not a := CasReal.b2r (a = 0)
  and a b := CasReal.b2r (a ≠ 0 ∧ b ≠ 0)
  or a b := CasReal.b2r (a ≠ 0 ∨ b ≠ 0)
  ifz c a := if c ≠ 0 then a else 0

namespace CasReal
variable (a b c : ℝ) (n m e : ℤ)

@[cas_real] theorem ofInt_eq : (CasNum.ofInt n : ℝ) = (n : ℝ) := rfl
@[cas_real] theorem ofDyadic_eq : (CasNum.ofDyadic m e : ℝ) = (m : ℝ) * (2 : ℝ) ^ e := rfl
@[cas_real] theorem nonFinite_eq (k : ℤ) : (CasNum.nonFinite k : ℝ) = 0 := rfl
@[cas_real] theorem add_eq : CasNum.add a b = a + b := rfl
@[cas_real] theorem sub_eq : CasNum.sub a b = a - b := rfl
@[cas_real] theorem mul_eq : CasNum.mul a b = a * b := rfl
@[cas_real] theorem div_eq : CasNum.div a b = a / b := rfl
@[cas_real] theorem neg_eq : CasNum.neg a = -a := rfl
@[cas_real] theorem sq_eq : CasNum.sq a = a * a := rfl
@[cas_real] theorem twice_eq : CasNum.twice a = 2 * a := rfl
@[cas_real] theorem inv_eq : CasNum.inv a = 1 / a := rfl
@[cas_real] theorem sqrt_eq : CasNum.sqrt a = Real.sqrt a := rfl
@[cas_real] theorem sin_eq : CasNum.sin a = Real.sin a := rfl
@[cas_real] theorem cos_eq : CasNum.cos a = Real.cos a := rfl
@[cas_real] theorem tan_eq : CasNum.tan a = Real.tan a := rfl
@[cas_real] theorem asin_eq : CasNum.asin a = Real.arcsin a := rfl
@[cas_real] theorem acos_eq : CasNum.acos a = Real.arccos a := rfl
@[cas_real] theorem atan_eq : CasNum.atan a = Real.arctan a := rfl
@[cas_real] theorem atan2_eq : CasNum.atan2 a b = CasReal.atan2 a b := rfl
@[cas_real] theorem exp_eq : CasNum.exp a = Real.exp a := rfl
@[cas_real] theorem log_eq : CasNum.log a = Real.log a := rfl
@[cas_real] theorem pow_eq : CasNum.pow a b = Real.rpow a b := rfl
@[cas_real] theorem fabs_eq : CasNum.fabs a = |a| := rfl
@[cas_real] theorem sign_eq : CasNum.sign a = CasReal.sign a := rfl
@[cas_real] theorem floor_eq : CasNum.floor a = (⌊a⌋ : ℝ) := rfl
@[cas_real] theorem ceil_eq : CasNum.ceil a = (⌈a⌉ : ℝ) := rfl
@[cas_real] theorem fmin_eq : CasNum.fmin a b = min a b := rfl
@[cas_real] theorem fmax_eq : CasNum.fmax a b = max a b := rfl
@[cas_real] theorem fmod_eq : CasNum.fmod a b = CasReal.fmod a b := rfl
@[cas_real] theorem remainder_eq : CasNum.remainder a b = CasReal.remainder a b := rfl
@[cas_real] theorem lt_eq : CasNum.lt a b = if a < b then 1 else 0 := rfl
@[cas_real] theorem le_eq : CasNum.le a b = if a ≤ b then 1 else 0 := rfl
@[cas_real] theorem eq_eq : CasNum.eq a b = if a = b then 1 else 0 := rfl
@[cas_real] theorem ne_eq : CasNum.ne a b = if a ≠ b then 1 else 0 := rfl
@[cas_real] theorem not_eq : CasNum.not a = if a = 0 then 1 else 0 := rfl
@[cas_real] theorem and_eq : CasNum.and a b = if a ≠ 0 ∧ b ≠ 0 then 1 else 0 := rfl
@[cas_real] theorem or_eq : CasNum.or a b = if a ≠ 0 ∨ b ≠ 0 then 1 else 0 := rfl
@[cas_real] theorem ifz_eq : CasNum.ifz c a = if c ≠ 0 then a else 0 := rfl

/-- CasADi lowers `if_else(c, a, b)` to `ifz c a + ifz (not c) b`. -/
theorem ifelse_shape (p : Prop) [Decidable p] (x y : ℝ) :
    (if (if p then (1:ℝ) else 0) ≠ 0 then x else 0)
      + (if (if (if p then (1:ℝ) else 0) = 0 then (1:ℝ) else 0) ≠ 0 then y else 0)
    = if p then x else y := by
  by_cases h : p <;> simp [h]

end CasReal

end

namespace CasReal
/-! normal forms for CasADi's 0/1 encoded conditions -/
@[cas_real] theorem ite01_ne_zero (p : Prop) [Decidable p] : ((if p then (1:ℝ) else 0) ≠ 0) ↔ p := by
  by_cases h : p <;> simp [h]
@[cas_real] theorem ite01_eq_zero (p : Prop) [Decidable p] : ((if p then (1:ℝ) else 0) = 0) ↔ ¬p := by
  by_cases h : p <;> simp [h]
/-- `if_else(c, x, y)` as CasADi lowers it -/
@[cas_real] theorem ite_add_ite_not (p : Prop) [Decidable p] (x y : ℝ) :
    (if p then x else 0) + (if ¬p then y else 0) = if p then x else y := by
  by_cases h : p <;> simp [h]
end CasReal

attribute [cas_real] Int.cast_zero Int.cast_one Int.cast_ofNat Int.cast_neg Int.cast_natCast
