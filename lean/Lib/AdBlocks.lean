/-
  Lib/AdBlocks.lean — the adjoint of SE(3) and SE_2(3): the matrices of Ad (`se3AdMat` in block form with its
  homomorphism law, `se23AdMat` written out), and the conjugation law (Ad_X y)^ · X = X · y^ for both, from
  `affHat_conj` (code-independent).
-/
import Lib.Semidirect

namespace Rot
open Matrix

/-- `[[R, p^ R],[0, R]]` as a 6×6 matrix -/
noncomputable def se3AdMat (R : Matrix (Fin 3) (Fin 3) ℝ) (p : Fin 3 → ℝ) : Matrix (Fin 6) (Fin 6) ℝ :=
  Matrix.reindex finSumFinEquiv finSumFinEquiv (Matrix.fromBlocks R (hat p * R) 0 R)

def HatConj (R : Matrix (Fin 3) (Fin 3) ℝ) : Prop := ∀ y, hat (R.mulVec y) * R = R * hat y

theorem transpose_hat_mulVec (M : Matrix (Fin 3) (Fin 3) ℝ) (y : Fin 3 → ℝ) :
    M.transpose * hat (M.mulVec y) * M = M.det • hat y := by
  rw [det_fin_three, mulVec_fin_three, eta_fin_three M.transpose, eta_fin_three M]
  simp only [hat, transpose_apply, mat_lit, of_apply, cons_val]
  lit_entries <;> ring

theorem hatConj_of_orthogonal (M : Matrix (Fin 3) (Fin 3) ℝ) (ho : M.transpose * M = 1) (hd : M.det = 1) :
    HatConj M := by
  intro y
  have ho' : M * M.transpose = 1 := mul_eq_one_comm.mp ho
  have := transpose_hat_mulVec M y
  rw [hd, one_smul] at this
  calc hat (M.mulVec y) * M = (M * M.transpose) * (hat (M.mulVec y) * M) := by rw [ho', Matrix.one_mul]
    _ = M * (M.transpose * hat (M.mulVec y) * M) := by simp [Matrix.mul_assoc]
    _ = M * hat y := by rw [this]

theorem hatConj_qmat (q : Fin 4 → ℝ) (h : qnormSq q = 1) : HatConj (qmat q) :=
  hatConj_of_orthogonal _ (qmat_orthogonal q h).1 (qmat_orthogonal q h).2

theorem hatConj_mrpMat (r : Fin 3 → ℝ) : HatConj (mrpMat r) :=
  hatConj_of_orthogonal _ (mrpMat_orthogonal r).1 (mrpMat_orthogonal r).2

theorem se3AdMat_mul (R S : Matrix (Fin 3) (Fin 3) ℝ) (p q : Fin 3 → ℝ) (hR : HatConj R) :
    se3AdMat R p * se3AdMat S q = se3AdMat (R * S) (R.mulVec q + p) := by
  unfold se3AdMat
  rw [Matrix.reindex_apply, Matrix.reindex_apply, Matrix.reindex_apply, Matrix.submatrix_mul_equiv,
    Matrix.fromBlocks_multiply]
  have key : R * (hat q * S) + hat p * R * S = hat (R.mulVec q + p) * (R * S) := by
    rw [hat_add, Matrix.add_mul, ← Matrix.mul_assoc (hat (R.mulVec q)), hR q]
    simp [Matrix.mul_assoc]
  simp [key]

theorem se3Hat_conj {R : Matrix (Fin 3) (Fin 3) ℝ} (hR : HatConj R) (p yv yw : Fin 3 → ℝ) :
    se3Hat (R.mulVec yv + (hat p).mulVec (R.mulVec yw)) (R.mulVec yw) * se3Mat R p = se3Mat R p * se3Hat yv yw := by
  rw [se3Hat_eq, se3Mat_eq, se3Hat_eq, ← map_mul, ← map_mul, ← affHat_conj (hR yw), mul_cols, mul_cols]
  congr 3; ext i j; fin_cases j
  simp [cols, hat_mulVec_comm (R.mulVec yw) p]

theorem se23Hat_conj {R : Matrix (Fin 3) (Fin 3) ℝ} (hR : HatConj R) (v p yp yv yw : Fin 3 → ℝ) :
    se23Hat (R.mulVec yp + (hat p).mulVec (R.mulVec yw)) (R.mulVec yv + (hat v).mulVec (R.mulVec yw)) (R.mulVec yw)
        * se23Mat R v p
      = se23Mat R v p * se23Hat yp yv yw := by
  rw [se23Hat_eq, se23Mat_eq, se23Hat_eq, ← map_mul, ← map_mul, ← affHat_conj (hR yw), mul_cols, mul_cols]
  congr 3; ext i j
  fin_cases j <;> simp [cols, hat_mulVec_comm (R.mulVec yw)]

theorem hat_mul_eq (p : Fin 3 → ℝ) (R : Matrix (Fin 3) (Fin 3) ℝ) :
    hat p * R = !![p 1 * R 2 0 - p 2 * R 1 0, p 1 * R 2 1 - p 2 * R 1 1, p 1 * R 2 2 - p 2 * R 1 2;
                   p 2 * R 0 0 - p 0 * R 2 0, p 2 * R 0 1 - p 0 * R 2 1, p 2 * R 0 2 - p 0 * R 2 2;
                   p 0 * R 1 0 - p 1 * R 0 0, p 0 * R 1 1 - p 1 * R 0 1, p 0 * R 1 2 - p 1 * R 0 2] := by
  rw [eta_fin_three R, hat]
  simp only [mat_lit, of_apply, cons_val]
  lit_entries <;> ring

/-- `se3AdMat` written out, in the shape cyecca's `SE3LieGroup.adjoint` produces -/
theorem se3AdMat_eq (R : Matrix (Fin 3) (Fin 3) ℝ) (p : Fin 3 → ℝ) :
    se3AdMat R p =
      !![R 0 0, R 0 1, R 0 2, p 1 * R 2 0 - p 2 * R 1 0, p 1 * R 2 1 - p 2 * R 1 1, p 1 * R 2 2 - p 2 * R 1 2;
         R 1 0, R 1 1, R 1 2, p 2 * R 0 0 - p 0 * R 2 0, p 2 * R 0 1 - p 0 * R 2 1, p 2 * R 0 2 - p 0 * R 2 2;
         R 2 0, R 2 1, R 2 2, p 0 * R 1 0 - p 1 * R 0 0, p 0 * R 1 1 - p 1 * R 0 1, p 0 * R 1 2 - p 1 * R 0 2;
         0, 0, 0, R 0 0, R 0 1, R 0 2;
         0, 0, 0, R 1 0, R 1 1, R 1 2;
         0, 0, 0, R 2 0, R 2 1, R 2 2] := by
  rw [se3AdMat, hat_mul_eq]
  exact (etaExpand_eq _).symm

theorem se3AdMat_mulVec (R : Matrix (Fin 3) (Fin 3) ℝ) (p : Fin 3 → ℝ) (y : Fin 6 → ℝ) :
    ![(se3AdMat R p *ᵥ y) 0, (se3AdMat R p *ᵥ y) 1, (se3AdMat R p *ᵥ y) 2]
        = R *ᵥ ![y 0, y 1, y 2] + hat p *ᵥ (R *ᵥ ![y 3, y 4, y 5])
      ∧ ![(se3AdMat R p *ᵥ y) 3, (se3AdMat R p *ᵥ y) 4, (se3AdMat R p *ᵥ y) 5] = R *ᵥ ![y 3, y 4, y 5] := by
  have e : se3AdMat R p *ᵥ y
      = Sum.elim (R *ᵥ ![y 0, y 1, y 2] + hat p *ᵥ (R *ᵥ ![y 3, y 4, y 5])) (R *ᵥ ![y 3, y 4, y 5])
          ∘ finSumFinEquiv.symm := by
    rw [se3AdMat, reindex_apply, submatrix_mulVec_equiv, fromBlocks_mulVec, zero_mulVec, zero_add, mulVec_mulVec]
    congr 3; funext i; fin_cases i <;> rfl
  rw [e]
  constructor <;> (funext i; fin_cases i <;> rfl)

theorem se3AdMat_conj {R : Matrix (Fin 3) (Fin 3) ℝ} (hR : HatConj R) (p : Fin 3 → ℝ) (y : Fin 6 → ℝ) :
    se3Hat ![(se3AdMat R p *ᵥ y) 0, (se3AdMat R p *ᵥ y) 1, (se3AdMat R p *ᵥ y) 2]
        ![(se3AdMat R p *ᵥ y) 3, (se3AdMat R p *ᵥ y) 4, (se3AdMat R p *ᵥ y) 5] * se3Mat R p
      = se3Mat R p * se3Hat ![y 0, y 1, y 2] ![y 3, y 4, y 5] := by
  rw [(se3AdMat_mulVec R p y).1, (se3AdMat_mulVec R p y).2, se3Hat_conj hR]

/-- `[[R, 0, p^ R],[0, R, v^ R],[0, 0, R]]`: Ad of (R, v, p) ∈ SE_2(3) on (y_p, y_v, y_ω), written out in the shape
    cyecca's `SE23LieGroup.adjoint` produces (`p^ R` column by column as in `hat_mul_eq`) -/
def se23AdMat (R : Matrix (Fin 3) (Fin 3) ℝ) (v p : Fin 3 → ℝ) : Matrix (Fin 9) (Fin 9) ℝ :=
  !![R 0 0, R 0 1, R 0 2, 0, 0, 0, p 1 * R 2 0 - p 2 * R 1 0, p 1 * R 2 1 - p 2 * R 1 1, p 1 * R 2 2 - p 2 * R 1 2;
     R 1 0, R 1 1, R 1 2, 0, 0, 0, p 2 * R 0 0 - p 0 * R 2 0, p 2 * R 0 1 - p 0 * R 2 1, p 2 * R 0 2 - p 0 * R 2 2;
     R 2 0, R 2 1, R 2 2, 0, 0, 0, p 0 * R 1 0 - p 1 * R 0 0, p 0 * R 1 1 - p 1 * R 0 1, p 0 * R 1 2 - p 1 * R 0 2;
     0, 0, 0, R 0 0, R 0 1, R 0 2, v 1 * R 2 0 - v 2 * R 1 0, v 1 * R 2 1 - v 2 * R 1 1, v 1 * R 2 2 - v 2 * R 1 2;
     0, 0, 0, R 1 0, R 1 1, R 1 2, v 2 * R 0 0 - v 0 * R 2 0, v 2 * R 0 1 - v 0 * R 2 1, v 2 * R 0 2 - v 0 * R 2 2;
     0, 0, 0, R 2 0, R 2 1, R 2 2, v 0 * R 1 0 - v 1 * R 0 0, v 0 * R 1 1 - v 1 * R 0 1, v 0 * R 1 2 - v 1 * R 0 2;
     0, 0, 0, 0, 0, 0, R 0 0, R 0 1, R 0 2;
     0, 0, 0, 0, 0, 0, R 1 0, R 1 1, R 1 2;
     0, 0, 0, 0, 0, 0, R 2 0, R 2 1, R 2 2]

theorem sum_univ_nine (f : Fin 9 → ℝ) : ∑ i, f i = f 0 + f 1 + f 2 + f 3 + f 4 + f 5 + f 6 + f 7 + f 8 := by
  rw [Fin.sum_univ_castSucc, Fin.sum_univ_eight]; rfl

theorem se23AdMat_mulVec (R : Matrix (Fin 3) (Fin 3) ℝ) (v p : Fin 3 → ℝ) (y : Fin 9 → ℝ) :
    ![(se23AdMat R v p *ᵥ y) 0, (se23AdMat R v p *ᵥ y) 1, (se23AdMat R v p *ᵥ y) 2]
        = R *ᵥ ![y 0, y 1, y 2] + hat p *ᵥ (R *ᵥ ![y 6, y 7, y 8])
      ∧ ![(se23AdMat R v p *ᵥ y) 3, (se23AdMat R v p *ᵥ y) 4, (se23AdMat R v p *ᵥ y) 5]
        = R *ᵥ ![y 3, y 4, y 5] + hat v *ᵥ (R *ᵥ ![y 6, y 7, y 8])
      ∧ ![(se23AdMat R v p *ᵥ y) 6, (se23AdMat R v p *ᵥ y) 7, (se23AdMat R v p *ᵥ y) 8] = R *ᵥ ![y 6, y 7, y 8] := by
  rw [mulVec_mulVec, mulVec_mulVec, hat_mul_eq, hat_mul_eq]
  simp only [mulVec_fin_three, mat_lit, cons_val, of_apply]
  simp only [se23AdMat, Matrix.mulVec, dotProduct, sum_univ_nine, of_apply, cons_val, zero_mul, add_zero, zero_add]
  refine ⟨?_, ?_, ?_⟩ <;> lit_entries <;> ring

theorem se23AdMat_conj {R : Matrix (Fin 3) (Fin 3) ℝ} (hR : HatConj R) (v p : Fin 3 → ℝ) (y : Fin 9 → ℝ) :
    se23Hat ![(se23AdMat R v p *ᵥ y) 0, (se23AdMat R v p *ᵥ y) 1, (se23AdMat R v p *ᵥ y) 2]
        ![(se23AdMat R v p *ᵥ y) 3, (se23AdMat R v p *ᵥ y) 4, (se23AdMat R v p *ᵥ y) 5]
        ![(se23AdMat R v p *ᵥ y) 6, (se23AdMat R v p *ᵥ y) 7, (se23AdMat R v p *ᵥ y) 8] * se23Mat R v p
      = se23Mat R v p * se23Hat ![y 0, y 1, y 2] ![y 3, y 4, y 5] ![y 6, y 7, y 8] := by
  obtain ⟨hp, hv, hw⟩ := se23AdMat_mulVec R v p y
  rw [hp, hv, hw, se23Hat_conj hR]

theorem se3AdMat_one : se3AdMat 1 0 = 1 := by
  unfold se3AdMat
  rw [hat_zero, Matrix.zero_mul, Matrix.fromBlocks_one]
  simp

end Rot
