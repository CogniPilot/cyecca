/-
  Lib/AdConj.lean — the adjoint representation is a homomorphism BECAUSE it is conjugation
  (code-independent).
  In the same way a bracket is antisymmetric and satisfies Jacobi BECAUSE an injective linear hat map turns it into
  the matrix commutator.
-/
import Mathlib.Data.Matrix.Mul
import Mathlib.Data.Real.Basic
import Mathlib.Algebra.Module.LinearMap.Defs
import Mathlib.Tactic.Abel

namespace AdConj
open Matrix

theorem hom_of_conj {n k : Type*} [Fintype n] [DecidableEq n] [Fintype k] [DecidableEq k]
    (hatM : (k → ℝ) → Matrix n n ℝ) (hinj : Function.Injective hatM)
    (A B C : Matrix k k ℝ) (Ma Mb Mi : Matrix n n ℝ) (hinv : (Ma * Mb) * Mi = 1)
    (hA : ∀ y, hatM (A.mulVec y) * Ma = Ma * hatM y)
    (hB : ∀ y, hatM (B.mulVec y) * Mb = Mb * hatM y)
    (hC : ∀ y, hatM (C.mulVec y) * (Ma * Mb) = (Ma * Mb) * hatM y) : C = A * B := by
  rw [Matrix.ext_iff_mulVec]
  intro y
  apply hinj
  have h1 : hatM (C.mulVec y) * (Ma * Mb) = hatM ((A * B).mulVec y) * (Ma * Mb) := by
    rw [hC, ← Matrix.mulVec_mulVec]
    calc Ma * Mb * hatM y = Ma * (Mb * hatM y) := Matrix.mul_assoc _ _ _
      _ = Ma * (hatM (B.mulVec y) * Mb) := by rw [hB]
      _ = (Ma * hatM (B.mulVec y)) * Mb := (Matrix.mul_assoc _ _ _).symm
      _ = (hatM (A.mulVec (B.mulVec y)) * Ma) * Mb := by rw [hA]
      _ = hatM (A.mulVec (B.mulVec y)) * (Ma * Mb) := Matrix.mul_assoc _ _ _
  calc hatM (C.mulVec y) = hatM (C.mulVec y) * ((Ma * Mb) * Mi) := by rw [hinv, Matrix.mul_one]
    _ = (hatM (C.mulVec y) * (Ma * Mb)) * Mi := (Matrix.mul_assoc _ _ _).symm
    _ = (hatM ((A * B).mulVec y) * (Ma * Mb)) * Mi := by rw [h1]
    _ = hatM ((A * B).mulVec y) * ((Ma * Mb) * Mi) := Matrix.mul_assoc _ _ _
    _ = hatM ((A * B).mulVec y) := by rw [hinv, Matrix.mul_one]

theorem inv_of_conj {n k : Type*} [Fintype n] [DecidableEq n] [Fintype k] [DecidableEq k]
    (hatM : (k → ℝ) → Matrix n n ℝ) (hinj : Function.Injective hatM)
    (A B : Matrix k k ℝ) (Ma Mb : Matrix n n ℝ) (hinv : Ma * Mb = 1)
    (hA : ∀ y, hatM (A.mulVec y) * Ma = Ma * hatM y)
    (hB : ∀ y, hatM (B.mulVec y) * Mb = Mb * hatM y) : A * B = 1 := by
  symm
  refine hom_of_conj hatM hinj A B 1 Ma Mb 1 (by rw [hinv, Matrix.mul_one]) hA hB ?_
  intro y; rw [hinv]; simp

theorem antisymm_of_comm {n k : Type*} [Fintype n] {hatM : (k → ℝ) → Matrix n n ℝ} (hlin : IsLinearMap ℝ hatM)
    (hinj : Function.Injective hatM) {br : (k → ℝ) → (k → ℝ) → k → ℝ}
    (hbr : ∀ x y, hatM (br x y) = hatM x * hatM y - hatM y * hatM x) (x y : k → ℝ) : br x y = -br y x := by
  apply hinj
  rw [hlin.map_neg, hbr, hbr, neg_sub]

theorem jacobi_of_comm {n k : Type*} [Fintype n] {hatM : (k → ℝ) → Matrix n n ℝ} (hlin : IsLinearMap ℝ hatM)
    (hinj : Function.Injective hatM) {br : (k → ℝ) → (k → ℝ) → k → ℝ}
    (hbr : ∀ x y, hatM (br x y) = hatM x * hatM y - hatM y * hatM x) (x y z : k → ℝ) :
    br x (br y z) + br y (br z x) + br z (br x y) = 0 := by
  apply hinj
  simp only [hlin.map_add, hlin.map_zero, hbr, Matrix.mul_sub, Matrix.sub_mul, Matrix.mul_assoc]
  abel

end AdConj
