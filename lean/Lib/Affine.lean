/-
  Lib/Affine.lean — block-triangular matrices, over arbitrary index types n (linear part) and k (columns):
      affMat R B = [[R, B],[0, 1]]      elements of ℝⁿ, SE(2), SE(3), SE₂(3) in their matrix form
      affHat W C = [[W, C],[0, 0]]      their algebra elements
  product, bracket, powers, the conjugation law behind Ad, and the closed form of 1 + X + c X² + d X³.
  The concrete `Fin m` matrices of the other Lib files are these, re-indexed along `finSumFinEquiv`
  (a matrix is the literal of its entries: `Matrix.etaExpand_eq`), and inherit the laws through `Matrix.reindexAlgEquiv`.  Code-independent.
-/
import Mathlib.Data.Matrix.Block
import Mathlib.LinearAlgebra.Matrix.Reindex
import Mathlib.Data.Real.Basic

namespace Rot
open Matrix

variable {n k : Type*} [Fintype n] [Fintype k] [DecidableEq k]

def affMat (R : Matrix n n ℝ) (B : Matrix n k ℝ) : Matrix (n ⊕ k) (n ⊕ k) ℝ := fromBlocks R B 0 1
def affHat (W : Matrix n n ℝ) (C : Matrix n k ℝ) : Matrix (n ⊕ k) (n ⊕ k) ℝ := fromBlocks W C 0 0

theorem affMat_mul (R S : Matrix n n ℝ) (B C : Matrix n k ℝ) :
    affMat R B * affMat S C = affMat (R * S) (R * C + B) := by
  simp [affMat, fromBlocks_multiply]

theorem affHat_mul (W V : Matrix n n ℝ) (C D : Matrix n k ℝ) :
    affHat W C * affHat V D = affHat (W * V) (W * D) := by
  simp [affHat, fromBlocks_multiply]

theorem affHat_conj {R W W' : Matrix n n ℝ} (h : W' * R = R * W) (B C : Matrix n k ℝ) :
    affHat W' (R * C - W' * B) * affMat R B = affMat R B * affHat W C := by
  simp [affHat, affMat, fromBlocks_multiply, h]

theorem affHat_commutator (W V : Matrix n n ℝ) (C D : Matrix n k ℝ) :
    affHat W C * affHat V D - affHat V D * affHat W C = affHat (W * V - V * W) (W * D - V * C) := by
  rw [affHat_mul, affHat_mul, affHat, affHat, affHat, sub_eq_add_neg, fromBlocks_neg, fromBlocks_add]
  simp [sub_eq_add_neg]

theorem affHat_zero_mul (C D : Matrix n k ℝ) : affHat (0 : Matrix n n ℝ) C * affHat 0 D = 0 := by
  rw [affHat_mul, Matrix.zero_mul, Matrix.zero_mul, affHat, fromBlocks_zero]

variable [DecidableEq n]

omit [Fintype n] [Fintype k] in
theorem affMat_one : affMat (1 : Matrix n n ℝ) (0 : Matrix n k ℝ) = 1 := fromBlocks_one

theorem affHat_zero_conj (B C : Matrix n k ℝ) : affHat 0 C * affMat 1 B = affMat 1 B * affHat 0 C := by
  simp [affHat, affMat, fromBlocks_multiply]

theorem affHat_pow_succ (W : Matrix n n ℝ) (C : Matrix n k ℝ) (m : ℕ) :
    affHat W C ^ (m + 1) = affHat (W ^ (m + 1)) (W ^ m * C) := by
  induction m with
  | zero => simp
  | succ m ih => rw [pow_succ, ih, affHat_mul, ← pow_succ]

theorem affHat_pow_four {W : Matrix n n ℝ} {s : ℝ} (h : W ^ 3 = s • W) (C : Matrix n k ℝ) :
    affHat W C ^ 4 = s • affHat W C ^ 2 := by
  rw [affHat_pow_succ, affHat_pow_succ, pow_succ W 3, h, affHat, affHat, fromBlocks_smul]
  simp [pow_two]

theorem affHat_closed (W : Matrix n n ℝ) (C : Matrix n k ℝ) (c d : ℝ) :
    1 + affHat W C + c • affHat W C ^ 2 + d • affHat W C ^ 3
      = affMat (1 + W + c • W ^ 2 + d • W ^ 3) ((1 + c • W + d • W ^ 2) * C) := by
  rw [affHat_pow_succ, affHat_pow_succ, ← fromBlocks_one, affMat, affHat, affHat, affHat,
    fromBlocks_smul, fromBlocks_smul, fromBlocks_add, fromBlocks_add, fromBlocks_add]
  simp [Matrix.add_mul, add_assoc]

noncomputable abbrev blk (n k : ℕ) := reindexAlgEquiv ℝ ℝ (finSumFinEquiv (m := n) (n := k))

def cols {n k : Type*} (f : k → n → ℝ) : Matrix n k ℝ := of fun i j => f j i

omit [Fintype k] [DecidableEq k] [DecidableEq n] in
theorem mul_cols (R : Matrix n n ℝ) (f : k → n → ℝ) : R * cols f = cols fun j => R.mulVec (f j) := rfl

end Rot
