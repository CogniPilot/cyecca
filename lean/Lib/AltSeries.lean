/-
  Lib/AltSeries.lean — the alternating series  F_m(u) = Σₖ (−u)ᵏ/(2k+m)!  as one family:
      F_0(t²) = cos t,   F_1(t²) = sin t / t,   F_{m+2}(u) = (1/m! − F_m(u))/u,   F_m(0) = 1/m!.
  The coefficient functions of the closed forms (Lib/RotExp, Lib/JacSeries) and the series the library's small-angle
  Taylor polynomials truncate (Lib/Tail) are members of it.  Code-independent.
-/
import Mathlib.Analysis.SpecialFunctions.Trigonometric.Series

open Nat

namespace Tail

/-- k-th term of the series with offset m -/
noncomputable def aTerm (m : ℕ) (u : ℝ) (k : ℕ) : ℝ := (-1) ^ k * u ^ k / ((2 * k + m)! : ℝ)

theorem aTerm_zero (m : ℕ) (u : ℝ) : aTerm m u 0 = 1 / (m ! : ℝ) := by
  simp only [aTerm, pow_zero, mul_zero, zero_add, mul_one]

theorem aTerm_succ (m : ℕ) (u : ℝ) (k : ℕ) : aTerm m u (k + 1) = -u * aTerm (m + 2) u k := by
  unfold aTerm
  rw [show 2 * (k + 1) + m = 2 * k + (m + 2) by ring, pow_succ, pow_succ]
  ring

theorem hasSum_aTerm_iff (m : ℕ) (u F : ℝ) :
    HasSum (aTerm m u) F ↔ HasSum (fun k => -u * aTerm (m + 2) u k) (F - 1 / (m ! : ℝ)) := by
  rw [← hasSum_nat_add_iff' 1]
  simp only [aTerm_succ, Finset.sum_range_one, aTerm_zero]

theorem hasSum_aTerm_add_two {m : ℕ} {u F : ℝ} (hu : u ≠ 0) (h : HasSum (aTerm m u) F) :
    HasSum (aTerm (m + 2) u) ((1 / (m ! : ℝ) - F) / u) := by
  have := ((hasSum_aTerm_iff m u F).mp h).mul_left (-u)⁻¹
  simp only [inv_mul_cancel_left₀ (neg_ne_zero.mpr hu)] at this
  rwa [inv_neg, neg_mul, ← mul_neg, neg_sub, inv_mul_eq_div] at this

theorem hasSum_aTerm_at_zero (m : ℕ) : HasSum (aTerm m 0) (1 / (m ! : ℝ)) := by
  rw [hasSum_aTerm_iff]
  simp only [neg_zero, zero_mul, sub_self]
  exact hasSum_zero

theorem hasSum_aTerm_cos (t : ℝ) : HasSum (aTerm 0 (t ^ 2)) (Real.cos t) := by
  have e : aTerm 0 (t ^ 2) = fun n => (-1) ^ n * t ^ (2 * n) / ((2 * n)! : ℝ) := by
    funext k; rw [aTerm, ← pow_mul, add_zero]
  rw [e]; exact Real.hasSum_cos t

theorem hasSum_aTerm_sin (t : ℝ) (ht : t ≠ 0) : HasSum (aTerm 1 (t ^ 2)) (Real.sin t / t) := by
  have e : aTerm 1 (t ^ 2) = fun n => (-1) ^ n * t ^ (2 * n + 1) / ((2 * n + 1)! : ℝ) / t := by
    funext k; rw [aTerm, ← pow_mul, pow_succ]; field_simp
  rw [e]; exact (Real.hasSum_sin t).div_const t

end Tail
