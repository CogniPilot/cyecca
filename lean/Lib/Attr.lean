/- simp set of Lib (core Lean only: a simp attribute cannot be used in the module that declares it). -/
import Lean.Meta.Tactic.Simp.RegisterCommand

/-- arithmetic of matrix and vector literals: products (sizes 2 and 3), sums, differences, scalar multiples and `1` of
    `!![…]` / `![…]` become ONE literal, which `lit_entries` (Lib/Rot) then splits into entry equations -/
register_simp_attr mat_lit
