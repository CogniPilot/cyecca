/-
  Lib/BlockDiag.lean — block-diagonal matrices `diag(A, B)` on `Fin (m + n)`: `Matrix.fromBlocks A 0 0 B` re-indexed along
  `finSumFinEquiv` (`blk` of Lib/Affine), so the product acts block-wise; and the written-out forms of the sizes in use.
  Code-independent.
-/
import Lib.Affine
import Mathlib.Data.Matrix.Reflection

namespace Rot
open Matrix

noncomputable def diagMat {m n : ℕ} (A : Matrix (Fin m) (Fin m) ℝ) (B : Matrix (Fin n) (Fin n) ℝ) :
    Matrix (Fin (m + n)) (Fin (m + n)) ℝ := blk m n (fromBlocks A 0 0 B)

theorem diagMat_mul {m n : ℕ} (A A' : Matrix (Fin m) (Fin m) ℝ) (B B' : Matrix (Fin n) (Fin n) ℝ) :
    diagMat A B * diagMat A' B' = diagMat (A * A') (B * B') := by
  rw [diagMat, diagMat, ← map_mul, fromBlocks_multiply]
  simp only [Matrix.mul_zero, Matrix.zero_mul, add_zero, zero_add, diagMat]

theorem diagMat_one {m n : ℕ} : diagMat (1 : Matrix (Fin m) (Fin m) ℝ) (1 : Matrix (Fin n) (Fin n) ℝ) = 1 := by
  rw [diagMat, fromBlocks_one, map_one]

-- A matrix is the literal of its entries (`etaExpand_eq`), and the entries of a `diagMat` of variables reduce to the ones
-- written here: one `rfl` for the whole matrix, no case split.

theorem diagMat_lit23 (A : Matrix (Fin 2) (Fin 2) ℝ) (B : Matrix (Fin 3) (Fin 3) ℝ) :
    diagMat A B =
      !![A 0 0, A 0 1, 0, 0, 0;
         A 1 0, A 1 1, 0, 0, 0;
         0, 0, B 0 0, B 0 1, B 0 2;
         0, 0, B 1 0, B 1 1, B 1 2;
         0, 0, B 2 0, B 2 1, B 2 2] :=
  (etaExpand_eq _).symm

theorem diagMat_lit443 (A B : Matrix (Fin 4) (Fin 4) ℝ) (C : Matrix (Fin 3) (Fin 3) ℝ) :
    diagMat (diagMat A B) C =
      !![A 0 0, A 0 1, A 0 2, A 0 3, 0, 0, 0, 0, 0, 0, 0;
         A 1 0, A 1 1, A 1 2, A 1 3, 0, 0, 0, 0, 0, 0, 0;
         A 2 0, A 2 1, A 2 2, A 2 3, 0, 0, 0, 0, 0, 0, 0;
         A 3 0, A 3 1, A 3 2, A 3 3, 0, 0, 0, 0, 0, 0, 0;
         0, 0, 0, 0, B 0 0, B 0 1, B 0 2, B 0 3, 0, 0, 0;
         0, 0, 0, 0, B 1 0, B 1 1, B 1 2, B 1 3, 0, 0, 0;
         0, 0, 0, 0, B 2 0, B 2 1, B 2 2, B 2 3, 0, 0, 0;
         0, 0, 0, 0, B 3 0, B 3 1, B 3 2, B 3 3, 0, 0, 0;
         0, 0, 0, 0, 0, 0, 0, 0, C 0 0, C 0 1, C 0 2;
         0, 0, 0, 0, 0, 0, 0, 0, C 1 0, C 1 1, C 1 2;
         0, 0, 0, 0, 0, 0, 0, 0, C 2 0, C 2 1, C 2 2] :=
  (etaExpand_eq _).symm

def diag34 (A : Matrix (Fin 3) (Fin 3) ℝ) (B : Matrix (Fin 4) (Fin 4) ℝ) : Matrix (Fin 7) (Fin 7) ℝ :=
  !![A 0 0, A 0 1, A 0 2, 0, 0, 0, 0;
     A 1 0, A 1 1, A 1 2, 0, 0, 0, 0;
     A 2 0, A 2 1, A 2 2, 0, 0, 0, 0;
     0, 0, 0, B 0 0, B 0 1, B 0 2, B 0 3;
     0, 0, 0, B 1 0, B 1 1, B 1 2, B 1 3;
     0, 0, 0, B 2 0, B 2 1, B 2 2, B 2 3;
     0, 0, 0, B 3 0, B 3 1, B 3 2, B 3 3]

theorem diag34_eq (A : Matrix (Fin 3) (Fin 3) ℝ) (B : Matrix (Fin 4) (Fin 4) ℝ) : diag34 A B = diagMat A B :=
  etaExpand_eq (diagMat A B)

theorem diag34_mul (A A' : Matrix (Fin 3) (Fin 3) ℝ) (B B' : Matrix (Fin 4) (Fin 4) ℝ) :
    diag34 A B * diag34 A' B' = diag34 (A * A') (B * B') := by
  rw [diag34_eq, diag34_eq, diag34_eq, diagMat_mul]

theorem diag34_one : diag34 1 1 = 1 := by
  rw [diag34_eq, diagMat_one]

end Rot
