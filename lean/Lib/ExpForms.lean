/-
  Lib/ExpForms.lean — matrix exponentials of so(3), se(3), se₂(3), so(2), se(2), ℝⁿ hat matrices in
  closed form (Rodrigues), from Lib/RotExp; the quaternion and the MRP of a rotation vector (`qexp`, quarter-angle MRP)
  have that exponential as their matrix.  Code-independent.
-/
import Lib.HatPoly
import Lib.Semidirect
import Lib.RotExp
import Lib.SO3
import Mathlib.Analysis.Normed.Algebra.MatrixExponential

namespace Rot
open Matrix NormedSpace RotExp

theorem matrix_exp_closed_form {n : ℕ} (A : Matrix (Fin n) (Fin n) ℝ) (t : ℝ)
    (h : A ^ 4 = (-(t ^ 2)) • A ^ 2) :
    exp A = 1 + A + cFun t • A ^ 2 + dFun t • A ^ 3 := by
  -- matrices carry no canonical norm: the L∞ operator norm is installed locally, as Mathlib does for
  -- `Matrix.exp_add_of_commute`
  let _ : NormedRing (Matrix (Fin n) (Fin n) ℝ) := Matrix.linftyOpNormedRing
  let _ : NormedAlgebra ℝ (Matrix (Fin n) (Fin n) ℝ) := Matrix.linftyOpNormedAlgebra
  exact exp_eq_closed_form h

theorem sq_sqrt_nsq (w : Fin 3 → ℝ) : Real.sqrt (nsq w) ^ 2 = nsq w := Real.sq_sqrt (nsq_nonneg w)

theorem hat_pow_three_sqrt (w : Fin 3 → ℝ) : hat w ^ 3 = (-(Real.sqrt (nsq w) ^ 2)) • hat w := by
  rw [sq_sqrt_nsq]; exact hat_pow_three w

theorem sqrt_nsq_smul (t : ℝ) (w : Fin 3 → ℝ) :
    Real.sqrt (nsq (fun i => t * w i)) = |t| * Real.sqrt (nsq w) := by
  have : nsq (fun i => t * w i) = t ^ 2 * nsq w := by simp only [nsq]; ring
  rw [this, Real.sqrt_mul (sq_nonneg t), Real.sqrt_sq_eq_abs]

/-- Rodrigues' formula, θ = 0 included -/
theorem exp_hat (x : Fin 3 → ℝ) :
    exp (hat x) = 1 + sFun (Real.sqrt (nsq x)) • hat x + cFun (Real.sqrt (nsq x)) • hat x ^ 2 := by
  have h3 := hat_pow_three_sqrt x
  rw [matrix_exp_closed_form _ _ (pow_four_of_cube h3), h3, sFun_eq, smul_smul, sub_smul, one_smul, mul_neg, neg_smul,
    mul_comm]
  abel

/-- the left Jacobian of SO(3) -/
noncomputable def Vmat (w : Fin 3 → ℝ) : Matrix (Fin 3) (Fin 3) ℝ :=
  1 + cFun (Real.sqrt (nsq w)) • hat w + dFun (Real.sqrt (nsq w)) • hat w ^ 2

/-- one statement for ℝⁿ (W = 0, `exp_affHat_zero`), se(2), se(3), se₂(3) -/
theorem exp_affHat {n k : ℕ} {W : Matrix (Fin n) (Fin n) ℝ} {t : ℝ} (h3 : W ^ 3 = (-(t ^ 2)) • W)
    (C : Matrix (Fin n) (Fin k) ℝ) :
    exp (blk n k (affHat W C)) = blk n k (affMat (exp W) ((1 + cFun t • W + dFun t • W ^ 2) * C)) := by
  have h4' : blk n k (affHat W C) ^ 4 = (-(t ^ 2)) • blk n k (affHat W C) ^ 2 := by
    rw [← map_pow, ← map_pow, affHat_pow_four h3, map_smul]
  rw [matrix_exp_closed_form _ _ h4', matrix_exp_closed_form _ _ (pow_four_of_cube h3), ← affHat_closed]
  simp only [map_add, map_one, map_smul, map_pow]

theorem exp_affHat_zero {n k : ℕ} (C : Matrix (Fin n) (Fin k) ℝ) :
    exp (blk n k (affHat 0 C)) = blk n k (affMat 1 C) := by
  have h := exp_affHat (W := (0 : Matrix (Fin n) (Fin n) ℝ)) (t := 0) (by simp) C
  simpa using h

theorem exp_se3Hat (v w : Fin 3 → ℝ) :
    exp (se3Hat v w) = se3Mat (exp (hat w)) ((Vmat w).mulVec v) := by
  rw [se3Hat_eq, exp_affHat (hat_pow_three_sqrt w), se3Mat_eq, mul_cols]
  congr 2; ext i j; fin_cases j; rfl

theorem exp_se23Hat (v a w : Fin 3 → ℝ) :
    exp (se23Hat v a w) = se23Mat (exp (hat w)) ((Vmat w).mulVec a) ((Vmat w).mulVec v) := by
  rw [se23Hat_eq, exp_affHat (hat_pow_three_sqrt w), se23Mat_eq, mul_cols]
  congr 2; ext i j; fin_cases j <;> rfl

theorem se23Hat_pow_four (v a w : Fin 3 → ℝ) :
    se23Hat v a w ^ 4 = (-(Real.sqrt (nsq w) ^ 2)) • se23Hat v a w ^ 2 := by
  rw [se23Hat_eq, ← map_pow, ← map_pow, affHat_pow_four (hat_pow_three_sqrt w), map_smul]

theorem so2Hat_pow_three (t : ℝ) : so2Hat t ^ 3 = (-(t ^ 2)) • so2Hat t := by
  rw [pow_succ, pow_two]
  simp only [so2Hat, mat_lit]
  lit_entries <;> ring

theorem exp_so2Hat (t : ℝ) : exp (so2Hat t) = !![Real.cos t, -Real.sin t; Real.sin t, Real.cos t] := by
  rw [matrix_exp_closed_form _ _ (pow_four_of_cube (so2Hat_pow_three t)), so2Hat_pow_three, cos_eq_cFun, sin_eq_sFun, sFun_eq, pow_two]
  simp only [so2Hat, mat_lit]
  lit_entries <;> ring

theorem so2_Vmat (t : ℝ) :
    1 + cFun t • so2Hat t + dFun t • so2Hat t ^ 2 = !![sFun t, -(t * cFun t); t * cFun t, sFun t] := by
  rw [sFun_eq, pow_two]
  simp only [so2Hat, mat_lit]
  lit_entries <;> ring

theorem exp_se2Hat (x y t : ℝ) :
    exp (se2Hat x y t) = se2Mat !![Real.cos t, -Real.sin t; Real.sin t, Real.cos t]
      ![sFun t * x - t * cFun t * y, t * cFun t * x + sFun t * y] := by
  rw [se2Hat_eq, exp_affHat (so2Hat_pow_three t), exp_so2Hat, so2_Vmat, se2Mat_eq, mul_cols]
  congr 2; ext i j; fin_cases j
  fin_cases i <;> simp [cols, Matrix.mulVec, dotProduct, Fin.sum_univ_two, sub_eq_add_neg]

theorem qmat_axis (a b : ℝ) (w : Fin 3 → ℝ) :
    qmat ![a, b * w 0, b * w 1, b * w 2] = poly3 w (a ^ 2 + b ^ 2 * nsq w) (2 * a * b) (2 * b ^ 2) := by
  rw [poly3_entries, qmat, nsq]
  simp only [Matrix.cons_val]
  lit_entries <;> ring

/-- the unit quaternion of a rotation vector: `(cos(θ/2), sin(θ/2)/θ · w)` -/
noncomputable def qexp (w : Fin 3 → ℝ) : Fin 4 → ℝ :=
  ![Real.cos (Real.sqrt (nsq w) / 2), sFun (Real.sqrt (nsq w) / 2) / 2 * w 0,
    sFun (Real.sqrt (nsq w) / 2) / 2 * w 1, sFun (Real.sqrt (nsq w) / 2) / 2 * w 2]

theorem qexp_norm_aux (θ u : ℝ) (hu : θ ^ 2 = u) :
    Real.cos (θ / 2) ^ 2 + (sFun (θ / 2) / 2) ^ 2 * u = 1 := by
  have hs : (θ / 2 * sFun (θ / 2)) ^ 2 = Real.sin (θ / 2) ^ 2 := by rw [← sin_eq_sFun]
  have hp := Real.sin_sq_add_cos_sq (θ / 2)
  rw [← hu]; nlinarith [hs, hp]

theorem qnormSq_qexp (w : Fin 3 → ℝ) : qnormSq (qexp w) = 1 := by
  have e : qnormSq (qexp w) = Real.cos (Real.sqrt (nsq w) / 2) ^ 2
      + (sFun (Real.sqrt (nsq w) / 2) / 2) ^ 2 * nsq w := by
    simp only [qnormSq, qexp, nsq]; simp; ring
  rw [e]; exact qexp_norm_aux _ _ (sq_sqrt_nsq w)

theorem qmat_qexp (w : Fin 3 → ℝ) : qmat (qexp w) = exp (hat w) := by
  have h2 : Real.sqrt (nsq w) = 2 * (Real.sqrt (nsq w) / 2) := by ring
  rw [exp_hat, ← poly3_one, qexp, qmat_axis, qexp_norm_aux _ _ (sq_sqrt_nsq w)]
  conv_rhs => rw [h2, sFun_double, cFun_double]
  congr 1 <;> ring

theorem isRot_exp_hat (w : Fin 3 → ℝ) : IsRot (exp (hat w)) := by
  rw [← qmat_qexp]; exact isRot_qmat _ (qnormSq_qexp w)

theorem mrpQ_tan_quarter (w : Fin 3 → ℝ) (hθ : Real.sqrt (nsq w) ≠ 0)
    (hc : Real.cos (Real.sqrt (nsq w) / 4) ≠ 0) :
    mrpQ (fun i => Real.tan (Real.sqrt (nsq w) / 4) / Real.sqrt (nsq w) * w i)
      = (1 / Real.cos (Real.sqrt (nsq w) / 4) ^ 2) • qexp w := by
  have hu := sq_sqrt_nsq w
  set θ := Real.sqrt (nsq w) with hθdef
  have hp := Real.sin_sq_add_cos_sq (θ / 4)
  have htan : Real.tan (θ / 4) = Real.sin (θ / 4) / Real.cos (θ / 4) := Real.tan_eq_sin_div_cos _
  have hn : nsq (fun i => Real.tan (θ / 4) / θ * w i) = Real.tan (θ / 4) ^ 2 := by
    have : nsq (fun i => Real.tan (θ / 4) / θ * w i) = (Real.tan (θ / 4) / θ) ^ 2 * nsq w := by
      simp only [nsq]; ring
    rw [this, ← hu]; field_simp
  have hcos2 : Real.cos (θ / 2) = Real.cos (θ / 4) ^ 2 - Real.sin (θ / 4) ^ 2 := by
    rw [show θ / 2 = 2 * (θ / 4) by ring, Real.cos_two_mul]; linarith [hp]
  have hs : sFun (θ / 2) = 2 * Real.sin (θ / 4) * Real.cos (θ / 4) / (θ / 2) := by
    rw [sFun, if_neg (by intro h; apply hθ; linarith), show θ / 2 = 2 * (θ / 4) by ring, Real.sin_two_mul]
  funext i
  fin_cases i
  · simp only [mrpQ, qexp, hn, Pi.smul_apply, smul_eq_mul, Fin.zero_eta, Matrix.cons_val_zero]
    rw [hcos2, htan]; field_simp
  all_goals
    simp only [mrpQ, qexp, Pi.smul_apply, smul_eq_mul, Fin.mk_one, Matrix.cons_val_one,
      Matrix.cons_val_zero, Matrix.cons_val, Fin.reduceFinMk]
    rw [hs, htan]; field_simp

theorem mrpMat_tan_quarter (w : Fin 3 → ℝ) (hθ : Real.sqrt (nsq w) ≠ 0)
    (hc : Real.cos (Real.sqrt (nsq w) / 4) ≠ 0) :
    mrpMat (fun i => Real.tan (Real.sqrt (nsq w) / 4) / Real.sqrt (nsq w) * w i) = exp (hat w) := by
  rw [mrpMat_eq_rotOf, mrpQ_tan_quarter w hθ hc, rotOf_smul (one_div_ne_zero (pow_ne_zero 2 hc)),
    rotOf_of_unit (qnormSq_qexp w), qmat_qexp]

end Rot
