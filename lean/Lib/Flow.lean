/-
  Lib/Flow.lean — the exact flow of the strap-down IMU kinematics
        p' = v,   v' = R a − g e₃,   R' = R [ω]×        (a, ω, g constant)
  in closed form, with its derivatives.  Code-independent.
-/
import Lib.ExpForms
import Lib.HatPoly
import Mathlib.Analysis.SpecialFunctions.Trigonometric.Deriv
import Mathlib.Analysis.Calculus.Deriv.Mul
import Mathlib.Analysis.Calculus.Deriv.Add
import Mathlib.Analysis.Calculus.Deriv.Pow

namespace Flow
open Rot Matrix

/-- coefficient functions of time for a rate of magnitude `n ≠ 0` -/
noncomputable def sig (n t : ℝ) : ℝ := Real.sin (n * t) / n
noncomputable def alpha (n t : ℝ) : ℝ := (1 - Real.cos (n * t)) / n ^ 2
noncomputable def beta (n t : ℝ) : ℝ := (n * t - Real.sin (n * t)) / n ^ 3
noncomputable def gamma (n t : ℝ) : ℝ := ((n * t) ^ 2 / 2 + Real.cos (n * t) - 1) / n ^ 4

theorem hasDerivAt_sig (n t : ℝ) (hn : n ≠ 0) : HasDerivAt (sig n) (Real.cos (n * t)) t := by
  have h := ((Real.hasDerivAt_sin (n * t)).comp t (hasDerivAt_const_mul n)).div_const n
  exact h.congr_deriv (by field_simp)

theorem hasDerivAt_alpha (n t : ℝ) (hn : n ≠ 0) : HasDerivAt (alpha n) (sig n t) t := by
  have h := (((Real.hasDerivAt_cos (n * t)).comp t (hasDerivAt_const_mul n)).const_sub 1).div_const (n ^ 2)
  exact h.congr_deriv (by unfold sig; field_simp)

theorem hasDerivAt_beta (n t : ℝ) (hn : n ≠ 0) : HasDerivAt (beta n) (alpha n t) t := by
  have h := ((hasDerivAt_const_mul n).sub ((Real.hasDerivAt_sin (n * t)).comp t (hasDerivAt_const_mul n))).div_const (n ^ 3)
  exact h.congr_deriv (by unfold alpha; field_simp)

theorem hasDerivAt_gamma (n t : ℝ) (hn : n ≠ 0) : HasDerivAt (gamma n) (beta n t) t := by
  have h1 : HasDerivAt (fun s => (n * s) ^ 2 / 2) (n * (n * t)) t := by
    have := ((hasDerivAt_const_mul (x := t) n).pow 2).div_const 2
    exact this.congr_deriv (by simp; ring)
  have h := ((h1.add ((Real.hasDerivAt_cos (n * t)).comp t (hasDerivAt_const_mul n))).sub_const 1).div_const (n ^ 4)
  exact h.congr_deriv (by unfold beta; field_simp; ring)

/-- cos(nt) = 1 − n² α(t): lets Rflow' be expressed with the same three functions -/
theorem cos_eq_alpha (n t : ℝ) (hn : n ≠ 0) : Real.cos (n * t) = 1 - n ^ 2 * alpha n t := by
  unfold alpha; field_simp; ring

/-- attitude: R(t) = R₀ (1 + σ ω^ + α ω^²) = R₀ exp(t ω^) (`Rflow_eq_exp`) -/
noncomputable def Rflow (R0 : Matrix (Fin 3) (Fin 3) ℝ) (w : Fin 3 → ℝ) (t : ℝ) : Matrix (Fin 3) (Fin 3) ℝ :=
  R0 * (1 + sig (Real.sqrt (nsq w)) t • hat w + alpha (Real.sqrt (nsq w)) t • (hat w * hat w))

/-- velocity: v(t) = v₀ − g t e₃ + R₀ (t + α ω^ + β ω^²) a -/
noncomputable def vflow (R0 : Matrix (Fin 3) (Fin 3) ℝ) (v0 a w : Fin 3 → ℝ) (g t : ℝ) : Fin 3 → ℝ :=
  v0 + ![0, 0, -(g * t)]
    + R0.mulVec ((t • (1 : Matrix (Fin 3) (Fin 3) ℝ) + alpha (Real.sqrt (nsq w)) t • hat w
        + beta (Real.sqrt (nsq w)) t • (hat w * hat w)).mulVec a)

/-- position: p(t) = p₀ + v₀ t − g t²/2 e₃ + R₀ (t²/2 + β ω^ + γ ω^²) a -/
noncomputable def pflow (R0 : Matrix (Fin 3) (Fin 3) ℝ) (p0 v0 a w : Fin 3 → ℝ) (g t : ℝ) : Fin 3 → ℝ :=
  p0 + t • v0 + ![0, 0, -(g * (t ^ 2 / 2))]
    + R0.mulVec (((t ^ 2 / 2) • (1 : Matrix (Fin 3) (Fin 3) ℝ) + beta (Real.sqrt (nsq w)) t • hat w
        + gamma (Real.sqrt (nsq w)) t • (hat w * hat w)).mulVec a)

theorem Rflow_poly (R0 : Matrix (Fin 3) (Fin 3) ℝ) (w : Fin 3 → ℝ) (t : ℝ) :
    Rflow R0 w t = R0 * poly3 w 1 (sig (Real.sqrt (nsq w)) t) (alpha (Real.sqrt (nsq w)) t) := by
  simp [Rflow, poly3]
theorem vflow_poly (R0 : Matrix (Fin 3) (Fin 3) ℝ) (v0 a w : Fin 3 → ℝ) (g t : ℝ) :
    vflow R0 v0 a w g t = v0 + ![0, 0, -(g * t)]
      + (R0 * poly3 w t (alpha (Real.sqrt (nsq w)) t) (beta (Real.sqrt (nsq w)) t)).mulVec a := by
  simp [vflow, poly3, Matrix.mulVec_mulVec]
theorem pflow_poly (R0 : Matrix (Fin 3) (Fin 3) ℝ) (p0 v0 a w : Fin 3 → ℝ) (g t : ℝ) :
    pflow R0 p0 v0 a w g t = p0 + t • v0 + ![0, 0, -(g * (t ^ 2 / 2))]
      + (R0 * poly3 w (t ^ 2 / 2) (beta (Real.sqrt (nsq w)) t) (gamma (Real.sqrt (nsq w)) t)).mulVec a := by
  simp [pflow, poly3, Matrix.mulVec_mulVec]

/-- the entries of `R₀ · poly3 ω x y z` are linear in the coefficients, so they are differentiated coefficient-wise -/
theorem hasDerivAt_mul_poly3 (R0 : Matrix (Fin 3) (Fin 3) ℝ) (w : Fin 3 → ℝ) {x y z : ℝ → ℝ} {x' y' z' t : ℝ}
    (hx : HasDerivAt x x' t) (hy : HasDerivAt y y' t) (hz : HasDerivAt z z' t) (i j : Fin 3) :
    HasDerivAt (fun s => (R0 * poly3 w (x s) (y s) (z s)) i j) ((R0 * poly3 w x' y' z') i j) t := by
  simp only [mul_poly3, Matrix.add_apply, Matrix.smul_apply, smul_eq_mul]
  exact ((hx.mul_const _).add (hy.mul_const _)).add (hz.mul_const _)

theorem hasDerivAt_mul_poly3_mulVec (R0 : Matrix (Fin 3) (Fin 3) ℝ) (w a : Fin 3 → ℝ) {x y z : ℝ → ℝ} {x' y' z' t : ℝ}
    (hx : HasDerivAt x x' t) (hy : HasDerivAt y y' t) (hz : HasDerivAt z z' t) (i : Fin 3) :
    HasDerivAt (fun s => (R0 * poly3 w (x s) (y s) (z s)).mulVec a i) ((R0 * poly3 w x' y' z').mulVec a i) t := by
  simp only [Matrix.mulVec, dotProduct]
  exact HasDerivAt.fun_sum fun j _ => (hasDerivAt_mul_poly3 R0 w hx hy hz i j).mul_const (a j)

theorem hasDerivAt_gravity {f : ℝ → ℝ} {f' t : ℝ} (hf : HasDerivAt f f' t) (g : ℝ) (i : Fin 3) :
    HasDerivAt (fun s => (![0, 0, -(g * f s)] : Fin 3 → ℝ) i) ((![0, 0, -(g * f')] : Fin 3 → ℝ) i) t := by
  fin_cases i
  · exact hasDerivAt_const t 0
  · exact hasDerivAt_const t 0
  · exact (hf.const_mul g).fun_neg

theorem hasDerivAt_Rflow (R0 : Matrix (Fin 3) (Fin 3) ℝ) (w : Fin 3 → ℝ) (t : ℝ)
    (hn : Real.sqrt (nsq w) ≠ 0) (i j : Fin 3) :
    HasDerivAt (fun s => Rflow R0 w s i j) ((Rflow R0 w t * hat w) i j) t := by
  have h := hasDerivAt_mul_poly3 R0 w (hasDerivAt_const t (1 : ℝ)) (hasDerivAt_sig _ t hn) (hasDerivAt_alpha _ t hn) i j
  have e : 1 - nsq w * alpha (Real.sqrt (nsq w)) t = Real.cos (Real.sqrt (nsq w) * t) := by
    rw [cos_eq_alpha _ _ hn, sq_sqrt_nsq]
  simp only [Rflow_poly]
  rwa [Matrix.mul_assoc, poly3_mul_hat, e]

theorem hasDerivAt_vflow (R0 : Matrix (Fin 3) (Fin 3) ℝ) (v0 a w : Fin 3 → ℝ) (g t : ℝ)
    (hn : Real.sqrt (nsq w) ≠ 0) (i : Fin 3) :
    HasDerivAt (fun s => vflow R0 v0 a w g s i) (((Rflow R0 w t).mulVec a) i + ![0, 0, -g] i) t := by
  have h := hasDerivAt_mul_poly3_mulVec R0 w a (hasDerivAt_id t) (hasDerivAt_alpha _ t hn) (hasDerivAt_beta _ t hn) i
  simp only [vflow_poly, Rflow_poly, Pi.add_apply]
  exact (((hasDerivAt_const t (v0 i)).add (hasDerivAt_gravity (hasDerivAt_id t) g i)).add h).congr_deriv
    (by rw [mul_one]; ring)

theorem hasDerivAt_pflow (R0 : Matrix (Fin 3) (Fin 3) ℝ) (p0 v0 a w : Fin 3 → ℝ) (g t : ℝ)
    (hn : Real.sqrt (nsq w) ≠ 0) (i : Fin 3) :
    HasDerivAt (fun s => pflow R0 p0 v0 a w g s i) (vflow R0 v0 a w g t i) t := by
  have ht2 : HasDerivAt (fun s : ℝ => s ^ 2 / 2) t t := by
    simpa using ((hasDerivAt_id t).pow 2).div_const 2
  have h := hasDerivAt_mul_poly3_mulVec R0 w a ht2 (hasDerivAt_beta _ t hn) (hasDerivAt_gamma _ t hn) i
  simp only [pflow_poly, vflow_poly, Pi.add_apply, Pi.smul_apply, smul_eq_mul]
  exact ((((hasDerivAt_const t (p0 i)).add ((hasDerivAt_id t).mul_const (v0 i))).add
    (hasDerivAt_gravity ht2 g i)).add h).congr_deriv (by ring)

theorem flow_zero (R0 : Matrix (Fin 3) (Fin 3) ℝ) (p0 v0 a w : Fin 3 → ℝ) (g : ℝ) :
    pflow R0 p0 v0 a w g 0 = p0 ∧ vflow R0 v0 a w g 0 = v0 ∧ Rflow R0 w 0 = R0 := by
  refine ⟨?_, ?_, ?_⟩
  · funext i; fin_cases i <;> simp [pflow, beta, gamma] <;> rfl
  · funext i; fin_cases i <;> simp [vflow, alpha, beta] <;> rfl
  · simp [Rflow, sig, alpha]

open RotExp


/-- the flow with the coefficient VALUES as parameters (what the code computes) -/
noncomputable def Rform (R0 : Matrix (Fin 3) (Fin 3) ℝ) (w : Fin 3 → ℝ) (k0 k1 : ℝ) : Matrix (Fin 3) (Fin 3) ℝ :=
  R0 * (1 + k0 • hat w + k1 • (hat w * hat w))
noncomputable def vform (R0 : Matrix (Fin 3) (Fin 3) ℝ) (v0 a w : Fin 3 → ℝ) (g t k1 k2 : ℝ) : Fin 3 → ℝ :=
  v0 + ![0, 0, -(g * t)] + R0.mulVec ((t • (1 : Matrix (Fin 3) (Fin 3) ℝ) + k1 • hat w + k2 • (hat w * hat w)).mulVec a)
noncomputable def pform (R0 : Matrix (Fin 3) (Fin 3) ℝ) (p0 v0 a w : Fin 3 → ℝ) (g t k2 k3 : ℝ) : Fin 3 → ℝ :=
  p0 + t • v0 + ![0, 0, -(g * (t ^ 2 / 2))]
    + R0.mulVec (((t ^ 2 / 2) • (1 : Matrix (Fin 3) (Fin 3) ℝ) + k2 • hat w + k3 • (hat w * hat w)).mulVec a)

theorem Rflow_eq (R0 : Matrix (Fin 3) (Fin 3) ℝ) (w : Fin 3 → ℝ) (t : ℝ) :
    Rflow R0 w t = Rform R0 w (sig (Real.sqrt (nsq w)) t) (alpha (Real.sqrt (nsq w)) t) := rfl
theorem vflow_eq (R0 : Matrix (Fin 3) (Fin 3) ℝ) (v0 a w : Fin 3 → ℝ) (g t : ℝ) :
    vflow R0 v0 a w g t = vform R0 v0 a w g t (alpha (Real.sqrt (nsq w)) t) (beta (Real.sqrt (nsq w)) t) := rfl
theorem pflow_eq (R0 : Matrix (Fin 3) (Fin 3) ℝ) (p0 v0 a w : Fin 3 → ℝ) (g t : ℝ) :
    pflow R0 p0 v0 a w g t = pform R0 p0 v0 a w g t (beta (Real.sqrt (nsq w)) t) (gamma (Real.sqrt (nsq w)) t) := rfl

/-- the code evaluates its coefficients at θ = |t|·n (θ² = |tω|²); they are even, so the flow
    coefficients come out for either sign of the step -/
theorem coeffs_of_abs (n t : ℝ) (hn : n ≠ 0) (ht : t ≠ 0) :
    t * sFun (|t| * n) = sig n t ∧ t ^ 2 * cFun (|t| * n) = alpha n t
      ∧ t ^ 3 * dFun (|t| * n) = beta n t ∧ t ^ 4 * eFun (|t| * n) = gamma n t := by
  have hθ : |t| * n ≠ 0 := mul_ne_zero (abs_ne_zero.mpr ht) hn
  unfold sFun cFun dFun eFun sig alpha beta gamma
  rw [if_neg hθ, if_neg hθ, if_neg hθ]
  rcases lt_or_gt_of_ne ht with hneg | hpos
  · rw [abs_of_neg hneg]
    have e : -t * n = -(n * t) := by ring
    rw [e, Real.sin_neg, Real.cos_neg]
    refine ⟨?_, ?_, ?_, ?_⟩ <;> field_simp
    ring
  · rw [abs_of_pos hpos]
    have e : t * n = n * t := by ring
    rw [e]
    refine ⟨?_, ?_, ?_, ?_⟩ <;> field_simp

theorem Rflow_eq_exp (R0 : Matrix (Fin 3) (Fin 3) ℝ) (w : Fin 3 → ℝ) {t : ℝ} (ht : t ≠ 0)
    (hn : Real.sqrt (nsq w) ≠ 0) : Rflow R0 w t = R0 * NormedSpace.exp (hat (fun i => t * w i)) := by
  obtain ⟨cs, ca, -, -⟩ := coeffs_of_abs (Real.sqrt (nsq w)) t hn ht
  have hh : hat (fun i => t * w i) = t • hat w := by
    mat_entries <;> simp [hat]
  rw [exp_hat, sqrt_nsq_smul, hh, Rflow_eq, Rform, ← cs, ← ca, smul_pow, pow_two (hat w), smul_smul, smul_smul,
    mul_comm (sFun _), mul_comm (cFun _)]

end Flow
