/-
  Lib/FlowUnique.lean — the strap-down kinematics  p' = v,  v' = R a − g e₃,  R' = R [ω]×  have ONE solution
  for given initial values: the closed-form flow of Lib/Flow (code-independent).
  Elementary proof: for two solutions of R' = R[ω]× the squared Frobenius norm of the difference has derivative
  2 tr(DᵀD[ω]×) = 0 ([ω]× is skew), hence stays 0; then v and p differ by functions with zero derivative.
  The semigroup law of the flow is a corollary.
-/
import Lib.Flow
import Mathlib.Analysis.Calculus.MeanValue

namespace Flow
open Rot Matrix

theorem eq_of_hasDerivAt_eq {f g f' : ℝ → ℝ} (hf : ∀ t, HasDerivAt f (f' t) t) (hg : ∀ t, HasDerivAt g (f' t) t)
    (h0 : f 0 = g 0) (t : ℝ) : f t = g t := by
  have hd : ∀ s, HasDerivAt (fun s => f s - g s) 0 s := fun s => by simpa using (hf s).fun_sub (hg s)
  have := is_const_of_deriv_eq_zero (fun s => (hd s).differentiableAt) (fun s => (hd s).deriv) t 0
  linarith

theorem eq_zero_of_sq_sum_deriv_zero (D : Fin 3 → Fin 3 → ℝ → ℝ) (D' : Fin 3 → Fin 3 → ℝ → ℝ)
    (hD : ∀ i j t, HasDerivAt (D i j) (D' i j t) t)
    (hz : ∀ t, ∑ i, ∑ j, (D' i j t * D i j t + D i j t * D' i j t) = 0)
    (h0 : ∀ i j, D i j 0 = 0) : ∀ i j t, D i j t = 0 := by
  let f : ℝ → ℝ := fun s => ∑ i, ∑ j, D i j s * D i j s
  have hf : ∀ t, HasDerivAt f 0 t := by
    intro t
    have h := HasDerivAt.fun_sum (u := Finset.univ) (A := fun i s => ∑ j, D i j s * D i j s)
      (A' := fun i => ∑ j, (D' i j t * D i j t + D i j t * D' i j t)) (x := t) (by
        intro i _
        refine HasDerivAt.fun_sum (u := Finset.univ) (A := fun j s => D i j s * D i j s)
          (A' := fun j => D' i j t * D i j t + D i j t * D' i j t) (x := t) ?_
        intro j _
        exact (hD i j t).fun_mul (hD i j t))
    rw [hz t] at h
    exact h
  intro i j t
  have hsum : ∑ i, ∑ j, D i j t * D i j t = 0 :=
    eq_of_hasDerivAt_eq hf (fun t => hasDerivAt_const t (0 : ℝ)) (by simp [f, h0]) t
  have h1 := (Finset.sum_eq_zero_iff_of_nonneg (fun i _ => Finset.sum_nonneg fun j _ => mul_self_nonneg (D i j t))).mp hsum i (Finset.mem_univ i)
  have h2 := (Finset.sum_eq_zero_iff_of_nonneg (fun j _ => mul_self_nonneg (D i j t))).mp h1 j (Finset.mem_univ j)
  exact mul_self_eq_zero.mp h2

theorem R_unique (R : ℝ → Matrix (Fin 3) (Fin 3) ℝ) (R0 : Matrix (Fin 3) (Fin 3) ℝ) (w : Fin 3 → ℝ)
    (hn : Real.sqrt (nsq w) ≠ 0)
    (hR : ∀ i j t, HasDerivAt (fun s => R s i j) ((R t * hat w) i j) t) (h0 : R 0 = R0) :
    ∀ t, R t = Rflow R0 w t := by
  have key := eq_zero_of_sq_sum_deriv_zero
    (fun i j s => R s i j - Rflow R0 w s i j)
    (fun i j t => (R t * hat w) i j - (Rflow R0 w t * hat w) i j)
    (fun i j t => (hR i j t).fun_sub (hasDerivAt_Rflow R0 w t hn i j))
    (by
      intro t
      simp [Fin.sum_univ_three, Matrix.mul_apply, hat]
      ring)
    (by intro i j; simp [h0, (flow_zero R0 0 0 0 w 0).2.2])
  intro t
  ext i j
  have := key i j t
  linarith

theorem flow_unique (p v : ℝ → Fin 3 → ℝ) (R : ℝ → Matrix (Fin 3) (Fin 3) ℝ)
    (R0 : Matrix (Fin 3) (Fin 3) ℝ) (p0 v0 a w : Fin 3 → ℝ) (g : ℝ) (hn : Real.sqrt (nsq w) ≠ 0)
    (hp : ∀ i t, HasDerivAt (fun s => p s i) (v t i) t)
    (hv : ∀ i t, HasDerivAt (fun s => v s i) (((R t).mulVec a) i + ![0, 0, -g] i) t)
    (hR : ∀ i j t, HasDerivAt (fun s => R s i j) ((R t * hat w) i j) t)
    (hp0 : p 0 = p0) (hv0 : v 0 = v0) (hR0 : R 0 = R0) :
    ∀ t, p t = pflow R0 p0 v0 a w g t ∧ v t = vflow R0 v0 a w g t ∧ R t = Rflow R0 w t := by
  have hRt := R_unique R R0 w hn hR hR0
  have hvt : ∀ t, v t = vflow R0 v0 a w g t := fun t => funext fun i =>
    eq_of_hasDerivAt_eq (hv i) (fun s => hRt s ▸ hasDerivAt_vflow R0 v0 a w g s hn i)
      (by rw [hv0, (flow_zero R0 p0 v0 a w g).2.1]) t
  have hpt : ∀ t, p t = pflow R0 p0 v0 a w g t := fun t => funext fun i =>
    eq_of_hasDerivAt_eq (hp i) (fun s => hvt s ▸ hasDerivAt_pflow R0 p0 v0 a w g s hn i)
      (by rw [hp0, (flow_zero R0 p0 v0 a w g).1]) t
  exact fun t => ⟨hpt t, hvt t, hRt t⟩

/-- the flow restarted at time s solves the same equations from the state reached at s, and there is only one solution -/
theorem flow_semigroup (R0 : Matrix (Fin 3) (Fin 3) ℝ) (p0 v0 a w : Fin 3 → ℝ) (g s t : ℝ) (hw : nsq w ≠ 0) :
    Rflow R0 w (s + t) = Rflow (Rflow R0 w s) w t
    ∧ vflow R0 v0 a w g (s + t) = vflow (Rflow R0 w s) (vflow R0 v0 a w g s) a w g t
    ∧ pflow R0 p0 v0 a w g (s + t) = pflow (Rflow R0 w s) (pflow R0 p0 v0 a w g s) (vflow R0 v0 a w g s) a w g t := by
  have hn : Real.sqrt (nsq w) ≠ 0 := fun h => hw (le_antisymm (Real.sqrt_eq_zero'.mp h) (nsq_nonneg w))
  obtain ⟨hp, hv, hR⟩ := flow_unique (fun τ => pflow R0 p0 v0 a w g (s + τ)) (fun τ => vflow R0 v0 a w g (s + τ))
    (fun τ => Rflow R0 w (s + τ)) (Rflow R0 w s) (pflow R0 p0 v0 a w g s) (vflow R0 v0 a w g s) a w g hn
    (fun i τ => (hasDerivAt_pflow R0 p0 v0 a w g (s + τ) hn i).comp_const_add s τ)
    (fun i τ => (hasDerivAt_vflow R0 v0 a w g (s + τ) hn i).comp_const_add s τ)
    (fun i j τ => (hasDerivAt_Rflow R0 w (s + τ) hn i j).comp_const_add s τ)
    (by simp only [add_zero]) (by simp only [add_zero]) (by simp only [add_zero]) t
  exact ⟨hR, hv, hp⟩

end Flow
