/-
  Lib/HatPoly.lean — the commutative algebra of polynomials in a skew matrix,
        poly3 ω x y z = x·1 + y·ω^ + z·ω^²,
  closed under products because ω^³ = −|ω|² ω^.  Rodrigues' formula, the matrix V of the affine exponentials, the
  so(3) Jacobians and the strap-down flow are all elements of it; identities between them are identities between
  their three coefficients.  Code-independent.
-/
import Lib.Rot

namespace Rot
open Matrix

theorem hat_pow_three (x : Fin 3 → ℝ) : hat x ^ 3 = (-(nsq x)) • hat x := by
  rw [pow_succ, pow_two]
  simp only [hat, nsq, mat_lit]
  lit_entries <;> ring

def poly3 (w : Fin 3 → ℝ) (x y z : ℝ) : Matrix (Fin 3) (Fin 3) ℝ :=
  x • (1 : Matrix (Fin 3) (Fin 3) ℝ) + y • hat w + z • (hat w * hat w)

/-- the nine entries, for comparison with a translated matrix entry by entry -/
theorem poly3_entries (w : Fin 3 → ℝ) (x y z : ℝ) :
    poly3 w x y z =
      !![x - z * (w 1 * w 1 + w 2 * w 2), z * (w 0 * w 1) - y * w 2, z * (w 0 * w 2) + y * w 1;
         z * (w 0 * w 1) + y * w 2, x - z * (w 0 * w 0 + w 2 * w 2), z * (w 1 * w 2) - y * w 0;
         z * (w 0 * w 2) - y * w 1, z * (w 1 * w 2) + y * w 0, x - z * (w 0 * w 0 + w 1 * w 1)] := by
  simp only [poly3, hat, mat_lit]
  lit_entries <;> ring

theorem poly3_mul (w : Fin 3 → ℝ) (x y z x' y' z' : ℝ) :
    poly3 w x y z * poly3 w x' y' z'
      = poly3 w (x * x') (x * y' + y * x' - nsq w * (y * z' + z * y')) (x * z' + z * x' + y * y' - nsq w * (z * z')) := by
  rw [poly3_entries, poly3_entries, poly3_entries, mul_fin_three, nsq]
  lit_entries <;> ring

theorem poly3_one (w : Fin 3 → ℝ) (y z : ℝ) : poly3 w 1 y z = 1 + y • hat w + z • hat w ^ 2 := by
  rw [poly3, one_smul, pow_two]

theorem poly3_neg (w : Fin 3 → ℝ) (x y z : ℝ) : poly3 (-w) x y z = poly3 w x (-y) z := by
  simp only [poly3, hat_neg, neg_mul_neg, smul_neg, neg_smul]

theorem poly3_mul_hat (w : Fin 3 → ℝ) (x y z : ℝ) : poly3 w x y z * hat w = poly3 w 0 (x - nsq w * z) y := by
  have h : hat w = poly3 w 0 1 0 := by simp [poly3]
  rw [h, poly3_mul]; congr 1 <;> ring

theorem poly3_mulVec_self (w : Fin 3 → ℝ) (x y z : ℝ) : (poly3 w x y z).mulVec w = x • w := by
  simp only [poly3, add_mulVec, smul_mulVec, ← mulVec_mulVec, hat_mulVec_self, mulVec_zero, smul_zero, add_zero,
    one_mulVec]

theorem mul_poly3 (R : Matrix (Fin 3) (Fin 3) ℝ) (w : Fin 3 → ℝ) (x y z : ℝ) :
    R * poly3 w x y z = x • R + y • (R * hat w) + z • (R * (hat w * hat w)) := by
  simp only [poly3, Matrix.mul_add, Matrix.mul_smul, Matrix.mul_one]

end Rot
