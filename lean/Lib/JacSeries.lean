/-
  Lib/JacSeries.lean — the left-Jacobian series  Σₙ Aⁿ/(n+1)!  in closed form for A³ = −t² A
  (so(3) with A = ad_x = x^).  Code-independent.
-/
import Lib.RotExp

open NormedSpace Nat Tail

namespace RotExp

variable {𝔸 : Type*} [NormedRing 𝔸] [NormedAlgebra ℝ 𝔸]

theorem pow_odd_of_cube {A : 𝔸} {t : ℝ} (h : A ^ 3 = (-(t ^ 2)) • A) (k : ℕ) :
    A ^ (2 * k + 1) = ((-(t ^ 2)) ^ k) • A := by
  rw [pow_succ, pow_mul_of_sq_mul (by rw [← pow_succ, h])]

theorem hasSum_jacobian_series {A : 𝔸} {t : ℝ} (h : A ^ 3 = (-(t ^ 2)) • A) :
    HasSum (fun n : ℕ => (((n + 1)! : ℝ)⁻¹) • A ^ n) (1 + cFun t • A + dFun t • A ^ 2) := by
  rw [← hasSum_nat_add_iff' 1]
  have o : HasSum (fun k : ℕ => ((((2 * k + 1) + 1)! : ℝ)⁻¹) • A ^ (2 * k + 1)) (cFun t • A) := by
    convert (hasSum_cTerm t).smul_const A using 1
    ext k
    rw [pow_odd_of_cube h, smul_smul]
    congr 1
    rw [aTerm, neg_pow, show 2 * k + 1 + 1 = 2 * k + 2 by ring]; ring
  have e : HasSum (fun k : ℕ => ((((2 * k + 1 + 1) + 1)! : ℝ)⁻¹) • A ^ (2 * k + 1 + 1)) (dFun t • A ^ 2) := by
    convert (hasSum_dTerm t).smul_const (A ^ 2) using 1
    ext k
    rw [show 2 * k + 1 + 1 = 2 * k + 2 by ring, pow_even_of_rel (pow_four_of_cube h), smul_smul]
    congr 1
    rw [aTerm, neg_pow, show 2 * k + 2 + 1 = 2 * k + 3 by ring]; ring
  have := HasSum.even_add_odd (f := fun n => ((((n + 1) + 1)! : ℝ)⁻¹) • A ^ (n + 1)) o e
  have e2 : (1 + cFun t • A + dFun t • A ^ 2 - ∑ i ∈ Finset.range 1, (((i + 1)! : ℝ)⁻¹) • A ^ i)
      = cFun t • A + dFun t • A ^ 2 := by
    simp; abel
  rw [e2]
  exact this

end RotExp
