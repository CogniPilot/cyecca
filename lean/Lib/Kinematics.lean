/-
  Lib/Kinematics.lean — attitude kinematics: the chain rule for `qmat` and `mrpMat` along differentiable curves.
  Quaternion rates ½ (0,ω)⊗q and ½ q⊗(0,ω) move `qmat q` by [ω]× R and R [ω]×, for every quaternion, unit or not;
  the MRP rate B(r) ω is the second of these on the unnormalised quaternion `mrpQ r`, up to a rescaling, so
  r' = B(r) ω gives R' = R [ω]× along every differentiable MRP curve.  Code-independent.
-/
import Lib.Rot
import Mathlib.Analysis.Calculus.Deriv.Mul
import Mathlib.Analysis.Calculus.Deriv.Add
import Mathlib.Analysis.Calculus.Deriv.Inv
import Mathlib.Analysis.Calculus.Deriv.Pow

namespace Rot
open Matrix

/-- derivative of the quadratic map `q ↦ qmat q` in the direction `d` -/
def dqmat (q d : Fin 4 → ℝ) : Matrix (Fin 3) (Fin 3) ℝ :=
  !![2 * (q 0 * d 0 + q 1 * d 1 - q 2 * d 2 - q 3 * d 3), 2 * (q 1 * d 2 + d 1 * q 2 - q 0 * d 3 - d 0 * q 3),
       2 * (q 1 * d 3 + d 1 * q 3 + q 0 * d 2 + d 0 * q 2);
     2 * (q 1 * d 2 + d 1 * q 2 + q 0 * d 3 + d 0 * q 3), 2 * (q 0 * d 0 + q 2 * d 2 - q 1 * d 1 - q 3 * d 3),
       2 * (q 2 * d 3 + d 2 * q 3 - q 0 * d 1 - d 0 * q 1);
     2 * (q 1 * d 3 + d 1 * q 3 - q 0 * d 2 - d 0 * q 2), 2 * (q 2 * d 3 + d 2 * q 3 + q 0 * d 1 + d 0 * q 1),
       2 * (q 0 * d 0 + q 3 * d 3 - q 1 * d 1 - q 2 * d 2)]

theorem hasDerivAt_qmat (q : ℝ → Fin 4 → ℝ) (q' : Fin 4 → ℝ) (t : ℝ)
    (h : ∀ i, HasDerivAt (fun s => q s i) (q' i) t) (i j : Fin 3) :
    HasDerivAt (fun s => qmat (q s) i j) (dqmat (q t) q' i j) t := by
  have h0 := h 0; have h1 := h 1; have h2 := h 2; have h3 := h 3
  fin_cases i <;> fin_cases j <;>
    simp only [qmat, dqmat, Fin.zero_eta, Fin.mk_one, Fin.reduceFinMk, of_apply, cons_val]
  · exact ((((h0.mul h0).add (h1.mul h1)).sub (h2.mul h2)).sub (h3.mul h3)).congr_deriv (by ring)
  · exact (((h1.mul h2).sub (h0.mul h3)).const_mul 2).congr_deriv (by ring)
  · exact (((h1.mul h3).add (h0.mul h2)).const_mul 2).congr_deriv (by ring)
  · exact (((h1.mul h2).add (h0.mul h3)).const_mul 2).congr_deriv (by ring)
  · exact ((((h0.mul h0).add (h2.mul h2)).sub (h1.mul h1)).sub (h3.mul h3)).congr_deriv (by ring)
  · exact (((h2.mul h3).sub (h0.mul h1)).const_mul 2).congr_deriv (by ring)
  · exact (((h1.mul h3).sub (h0.mul h2)).const_mul 2).congr_deriv (by ring)
  · exact (((h2.mul h3).add (h0.mul h1)).const_mul 2).congr_deriv (by ring)
  · exact ((((h0.mul h0).add (h3.mul h3)).sub (h1.mul h1)).sub (h2.mul h2)).congr_deriv (by ring)

theorem dqmat_half_qmul_left (q : Fin 4 → ℝ) (w : Fin 3 → ℝ) :
    dqmat q ((1 / 2 : ℝ) • qmul ![0, w 0, w 1, w 2] q) = hat w * qmat q := by
  simp only [dqmat, hat, qmat, qmul, mat_lit, Pi.smul_apply, cons_val]
  lit_entries <;> ring

theorem dqmat_half_qmul_right (q : Fin 4 → ℝ) (w : Fin 3 → ℝ) :
    dqmat q ((1 / 2 : ℝ) • qmul q ![0, w 0, w 1, w 2]) = qmat q * hat w := by
  simp only [dqmat, hat, qmat, qmul, mat_lit, Pi.smul_apply, cons_val]
  lit_entries <;> ring

theorem dotProduct_half_qmul_left (q : Fin 4 → ℝ) (w : Fin 3 → ℝ) :
    q ⬝ᵥ (1 / 2 : ℝ) • qmul ![0, w 0, w 1, w 2] q = 0 := by
  simp [qmul, dotProduct, Fin.sum_univ_succ]; ring

theorem dotProduct_half_qmul_right (q : Fin 4 → ℝ) (w : Fin 3 → ℝ) :
    q ⬝ᵥ (1 / 2 : ℝ) • qmul q ![0, w 0, w 1, w 2] = 0 := by
  simp [qmul, dotProduct, Fin.sum_univ_succ]; ring

theorem dqmat_add (q a b : Fin 4 → ℝ) : dqmat q (a + b) = dqmat q a + dqmat q b := by
  simp only [dqmat, mat_lit, Pi.add_apply]
  lit_entries <;> ring

/-- `qmat` is homogeneous of degree 2 -/
theorem dqmat_smul_self (q : Fin 4 → ℝ) (c : ℝ) : dqmat q (c • q) = (2 * c) • qmat q := by
  simp only [dqmat, qmat, mat_lit, Pi.smul_apply]
  lit_entries <;> ring

/-- MRP rate matrix: r' = B(r) ω for body-frame rate ω (Schaub & Junkins) -/
noncomputable def mrpB (r : Fin 3 → ℝ) : Matrix (Fin 3) (Fin 3) ℝ :=
  (1 / 4 : ℝ) • ((1 - nsq r) • (1 : Matrix (Fin 3) (Fin 3) ℝ) + (2 : ℝ) • hat r + (2 : ℝ) • vecMulVec r r)

/-- derivative of `r ↦ mrpQ r` in the direction `d` -/
def dmrpQ (r d : Fin 3 → ℝ) : Fin 4 → ℝ := ![-(2 * dot3 r d), 2 * d 0, 2 * d 1, 2 * d 2]

/-- derivative of `r ↦ mrpMat r` in the direction `d` -/
noncomputable def dmrpMat (r d : Fin 3 → ℝ) : Matrix (Fin 3) (Fin 3) ℝ :=
  (1 / (1 + nsq r) ^ 2) • dqmat (mrpQ r) (dmrpQ r d) - (4 * dot3 r d / (1 + nsq r) ^ 3) • qmat (mrpQ r)

theorem hasDerivAt_nsq {u : ℝ → Fin 3 → ℝ} {u' : Fin 3 → ℝ} {t : ℝ} (h : ∀ i, HasDerivAt (fun s => u s i) (u' i) t) :
    HasDerivAt (fun s => nsq (u s)) (2 * dot3 (u t) u') t :=
  ((((h 0).fun_pow 2).fun_add ((h 1).fun_pow 2)).fun_add ((h 2).fun_pow 2)).congr_deriv (by simp only [dot3]; ring)

/-- product rule on (1 + |r|²)⁻² · qmat (mrpQ r) -/
theorem hasDerivAt_mrpMat (r : ℝ → Fin 3 → ℝ) (r' : Fin 3 → ℝ) (t : ℝ)
    (h : ∀ i, HasDerivAt (fun s => r s i) (r' i) t) (i j : Fin 3) :
    HasDerivAt (fun s => mrpMat (r s) i j) (dmrpMat (r t) r' i j) t := by
  have hn := hasDerivAt_nsq h
  have hq : ∀ k, HasDerivAt (fun s => mrpQ (r s) k) (dmrpQ (r t) r' k) t := by
    intro k
    fin_cases k
    · exact (hn.const_sub 1).congr_deriv rfl
    · exact (h 0).const_mul 2
    · exact (h 1).const_mul 2
    · exact (h 2).const_mul 2
  have hp := one_add_nsq_pos (r t)
  have hd : HasDerivAt (fun s => 1 / (1 + nsq (r s)) ^ 2) (-(4 * dot3 (r t) r') / (1 + nsq (r t)) ^ 3) t :=
    ((hasDerivAt_const t (1 : ℝ)).fun_div ((hn.const_add 1).fun_pow 2) (pow_ne_zero 2 hp.ne')).congr_deriv
      (by field_simp; ring)
  exact (hd.fun_mul (hasDerivAt_qmat (fun s => mrpQ (r s)) _ t hq i j)).congr_deriv
    (by simp only [dmrpMat, Matrix.sub_apply, Matrix.smul_apply, smul_eq_mul]; ring)

theorem dot3_mrpB_mulVec (r w : Fin 3 → ℝ) : dot3 r ((mrpB r).mulVec w) = (1 + nsq r) * dot3 r w / 4 := by
  simp [mrpB, hat, vecMulVec, dot3, nsq, Matrix.mulVec, dotProduct, Fin.sum_univ_three, Matrix.one_apply]
  ring

theorem dmrpQ_mrpB (r w : Fin 3 → ℝ) :
    dmrpQ r ((mrpB r).mulVec w) = (1 / 2 : ℝ) • qmul (mrpQ r) ![0, w 0, w 1, w 2] + (dot3 r w / 2) • mrpQ r := by
  rw [dmrpQ, dot3_mrpB_mulVec, mulVec_fin_three, mrpB, eta_fin_three (vecMulVec r r)]
  simp only [qmul, mrpQ, hat, mat_lit, vecMulVec_apply, of_apply, cons_val, dot3, nsq]
  lit_entries <;> ring

theorem dmrpMat_mrpB (r w : Fin 3 → ℝ) : dmrpMat r ((mrpB r).mulVec w) = mrpMat r * hat w := by
  have hp := one_add_nsq_pos r
  rw [dmrpMat, dmrpQ_mrpB, dqmat_add, dqmat_half_qmul_right, dqmat_smul_self, dot3_mrpB_mulVec, mrpMat, smul_add,
    smul_smul, Matrix.smul_mul, add_sub_assoc, ← sub_smul]
  -- the multiple of `mrpQ r` in the rate (`dmrpQ_mrpB`) cancels the derivative of the factor (1 + |r|²)⁻²
  have : 1 / (1 + nsq r) ^ 2 * (2 * (dot3 r w / 2)) - 4 * ((1 + nsq r) * dot3 r w / 4) / (1 + nsq r) ^ 3 = 0 := by
    field_simp; ring
  rw [this, zero_smul, add_zero]

end Rot
