/-
  Lib/Rot.lean — code-independent rotation algebra (quaternions, MRPs, hat map).
-/
import Lib.Attr
import Mathlib.LinearAlgebra.Matrix.Notation
import Mathlib.LinearAlgebra.Matrix.Determinant.Basic
import Mathlib.Data.Matrix.Mul
import Mathlib.Data.Real.Basic
import Mathlib.Tactic.Ring
import Mathlib.Tactic.FieldSimp
import Mathlib.Tactic.FinCases
import Mathlib.Tactic.Linarith
import Mathlib.Tactic.LinearCombination
import Mathlib.Tactic.Positivity

attribute [mat_lit] Matrix.mul_fin_two Matrix.mul_fin_three Matrix.one_fin_two Matrix.one_fin_three Matrix.smul_of
  Matrix.smul_cons Matrix.smul_empty Matrix.of_add_of Matrix.cons_add_cons Matrix.empty_add_empty Matrix.of_sub_of
  Matrix.cons_sub_cons Matrix.empty_sub_empty Matrix.neg_of Matrix.neg_cons Matrix.neg_empty smul_eq_mul

namespace Rot

/-- entry-wise goals of a `Fin m × Fin n` matrix equation -/
macro "mat_entries" : tactic =>
  `(tactic| (ext i j; fin_cases i <;> fin_cases j))

/-- entry-wise goals of an equation between two matrix or vector LITERALS (`!![…] = !![…]`, `![…] = ![…]`).
    Unlike `mat_entries`, no goal mentions the other entries: after `mat_entries` a `simp` that unfolds the
    entries of `!![e₀₀, …] i j` works on all n² of them in each of the n² goals.  A side that is a product, sum or
    multiple of literals is made one literal first by `simp only [mat_lit, …]` (Lib/Attr). -/
macro "lit_entries" : tactic =>
  `(tactic| (simp only [EmbeddingLike.apply_eq_iff_eq, Matrix.vecCons_inj, and_true, true_and]; split_ands))

def hat (w : Fin 3 → ℝ) : Matrix (Fin 3) (Fin 3) ℝ :=
  !![0, -w 2, w 1; w 2, 0, -w 0; -w 1, w 0, 0]

def dot3 (a b : Fin 3 → ℝ) : ℝ := a 0 * b 0 + a 1 * b 1 + a 2 * b 2
def cross (a b : Fin 3 → ℝ) : Fin 3 → ℝ :=
  ![a 1 * b 2 - a 2 * b 1, a 2 * b 0 - a 0 * b 2, a 0 * b 1 - a 1 * b 0]

theorem mulVec_fin_three (M : Matrix (Fin 3) (Fin 3) ℝ) (v : Fin 3 → ℝ) :
    M.mulVec v = ![M 0 0 * v 0 + M 0 1 * v 1 + M 0 2 * v 2, M 1 0 * v 0 + M 1 1 * v 1 + M 1 2 * v 2,
      M 2 0 * v 0 + M 2 1 * v 1 + M 2 2 * v 2] := by
  funext i; fin_cases i <;> exact Matrix.vec3_dotProduct _ _

theorem hat_add (a b : Fin 3 → ℝ) : hat (a + b) = hat a + hat b := by
  mat_entries <;> simp [hat] <;> ring

theorem hat_neg (a : Fin 3 → ℝ) : hat (-a) = -hat a := by
  mat_entries <;> simp [hat]

theorem hat_mulVec_eq_cross (a b : Fin 3 → ℝ) : (hat a).mulVec b = cross a b := by
  rw [mulVec_fin_three, hat, cross]
  simp only [Matrix.of_apply, Matrix.cons_val]
  lit_entries <;> ring

theorem hat_commutator (a b : Fin 3 → ℝ) : hat a * hat b - hat b * hat a = hat (cross a b) := by
  simp only [hat, cross, mat_lit, Matrix.cons_val]
  lit_entries <;> ring

theorem hat_zero : hat 0 = 0 := by
  mat_entries <;> simp [hat]

theorem hat_mulVec_comm (a b : Fin 3 → ℝ) : (hat a).mulVec b = -(hat b).mulVec a := by
  funext i; fin_cases i <;> simp [hat, Matrix.mulVec, dotProduct, Fin.sum_univ_succ] <;> ring

theorem hat_mulVec_self (a : Fin 3 → ℝ) : (hat a).mulVec a = 0 :=
  self_eq_neg.mp (hat_mulVec_comm a a)

/-- quaternions are scalar first and not assumed of unit norm -/
def qmul (q p : Fin 4 → ℝ) : Fin 4 → ℝ :=
  ![q 0 * p 0 - q 1 * p 1 - q 2 * p 2 - q 3 * p 3,
    q 1 * p 0 + q 0 * p 1 - q 3 * p 2 + q 2 * p 3,
    q 2 * p 0 + q 3 * p 1 + q 0 * p 2 - q 1 * p 3,
    q 3 * p 0 - q 2 * p 1 + q 1 * p 2 + q 0 * p 3]

def qconj (q : Fin 4 → ℝ) : Fin 4 → ℝ := ![q 0, -q 1, -q 2, -q 3]

def qnormSq (q : Fin 4 → ℝ) : ℝ := q 0 ^ 2 + q 1 ^ 2 + q 2 ^ 2 + q 3 ^ 2

/-- homogeneous quadratic rotation-matrix form; for unit `q` it is the rotation matrix -/
def qmat (q : Fin 4 → ℝ) : Matrix (Fin 3) (Fin 3) ℝ :=
  !![q 0 * q 0 + q 1 * q 1 - q 2 * q 2 - q 3 * q 3, 2 * (q 1 * q 2 - q 0 * q 3), 2 * (q 1 * q 3 + q 0 * q 2);
     2 * (q 1 * q 2 + q 0 * q 3), q 0 * q 0 + q 2 * q 2 - q 1 * q 1 - q 3 * q 3, 2 * (q 2 * q 3 - q 0 * q 1);
     2 * (q 1 * q 3 - q 0 * q 2), 2 * (q 2 * q 3 + q 0 * q 1), q 0 * q 0 + q 3 * q 3 - q 1 * q 1 - q 2 * q 2]

theorem qmul_assoc (q r t : Fin 4 → ℝ) : qmul (qmul q r) t = qmul q (qmul r t) := by
  simp only [qmul, Matrix.cons_val]
  lit_entries <;> ring

theorem qmul_smul (c : ℝ) (q r : Fin 4 → ℝ) : qmul q (c • r) = c • qmul q r := by
  simp only [qmul, Pi.smul_apply, mat_lit]
  lit_entries <;> ring

theorem qmat_mul (q p : Fin 4 → ℝ) : qmat (qmul q p) = qmat q * qmat p := by
  simp only [qmat, qmul, mat_lit, Matrix.cons_val]
  lit_entries <;> ring

theorem qmat_smul (s : ℝ) (q : Fin 4 → ℝ) : qmat (s • q) = (s ^ 2) • qmat q := by
  simp only [qmat, Pi.smul_apply, mat_lit]
  lit_entries <;> ring

theorem qmat_neg (q : Fin 4 → ℝ) : qmat (-q) = qmat q := by
  simp only [qmat, Pi.neg_apply, neg_mul_neg]

theorem qmat_transpose (q : Fin 4 → ℝ) : (qmat q).transpose = qmat (qconj q) := by
  rw [Matrix.eta_fin_three (qmat q).transpose]
  simp only [Matrix.transpose_apply, qmat, qconj, Matrix.of_apply, Matrix.cons_val]
  lit_entries <;> ring

theorem qmat_conj_mul (q : Fin 4 → ℝ) : qmat (qconj q) * qmat q = (qnormSq q ^ 2) • (1 : Matrix (Fin 3) (Fin 3) ℝ) := by
  simp only [qmat, qconj, qnormSq, mat_lit, Matrix.cons_val]
  lit_entries <;> ring

theorem qmat_mul_conj (q : Fin 4 → ℝ) : qmat q * qmat (qconj q) = (qnormSq q ^ 2) • (1 : Matrix (Fin 3) (Fin 3) ℝ) := by
  simp only [qmat, qconj, qnormSq, mat_lit, Matrix.cons_val]
  lit_entries <;> ring

theorem qmat_det (q : Fin 4 → ℝ) : (qmat q).det = qnormSq q ^ 3 := by
  simp [qmat, qnormSq, Matrix.det_fin_three]; ring

theorem qnormSq_mul (q p : Fin 4 → ℝ) : qnormSq (qmul q p) = qnormSq q * qnormSq p := by
  simp [qnormSq, qmul]; ring

theorem qnormSq_qconj (q : Fin 4 → ℝ) : qnormSq (qconj q) = qnormSq q := by
  simp only [qnormSq, qconj, Matrix.cons_val, neg_sq]

theorem qmat_one : qmat ![1, 0, 0, 0] = 1 := by
  mat_entries <;> simp [qmat]

theorem qmat_orthogonal (q : Fin 4 → ℝ) (h : qnormSq q = 1) :
    (qmat q).transpose * qmat q = 1 ∧ (qmat q).det = 1 := by
  constructor
  · rw [qmat_transpose, qmat_conj_mul, h]; simp
  · rw [qmat_det, h]; simp

theorem qnormSq_smul (s : ℝ) (q : Fin 4 → ℝ) : qnormSq (s • q) = s ^ 2 * qnormSq q := by
  simp only [qnormSq, Pi.smul_apply, smul_eq_mul]; ring

theorem qnormSq_neg (q : Fin 4 → ℝ) : qnormSq (-q) = qnormSq q := by simp [qnormSq]

/-- `qmat q / |q|²`, the rotation matrix of `q / |q|`.  MRPs, their products, shadows and conversions are all
    quaternions up to a scalar factor, which this form does not see (`rotOf_smul`). -/
noncomputable def rotOf (q : Fin 4 → ℝ) : Matrix (Fin 3) (Fin 3) ℝ := (1 / qnormSq q) • qmat q

theorem rotOf_smul {s : ℝ} (hs : s ≠ 0) (q : Fin 4 → ℝ) : rotOf (s • q) = rotOf q := by
  rw [rotOf, rotOf, qmat_smul, qnormSq_smul, smul_smul, one_div, mul_inv, mul_right_comm,
    inv_mul_cancel₀ (pow_ne_zero 2 hs), one_mul, one_div]

theorem rotOf_mul (q p : Fin 4 → ℝ) : rotOf (qmul q p) = rotOf q * rotOf p := by
  rw [rotOf, rotOf, rotOf, qmat_mul, qnormSq_mul, Matrix.smul_mul, Matrix.mul_smul, smul_smul, one_div_mul_one_div]

theorem rotOf_of_unit {q : Fin 4 → ℝ} (h : qnormSq q = 1) : rotOf q = qmat q := by
  rw [rotOf, h, div_one, one_smul]

theorem rotOf_conj_mul {q : Fin 4 → ℝ} (h : qnormSq q ≠ 0) : rotOf (qconj q) * rotOf q = 1 := by
  rw [rotOf, rotOf, qnormSq_qconj, Matrix.smul_mul, Matrix.mul_smul, qmat_conj_mul, smul_smul, smul_smul]
  field_simp
  exact one_smul _ _

def nsq (r : Fin 3 → ℝ) : ℝ := r 0 ^ 2 + r 1 ^ 2 + r 2 ^ 2

/-- the translated programs spell `|r|²` with products -/
theorem mul_self_eq_nsq (r : Fin 3 → ℝ) : r 0 * r 0 + r 1 * r 1 + r 2 * r 2 = nsq r := by
  unfold nsq; ring

theorem nsq_nonneg (r : Fin 3 → ℝ) : 0 ≤ nsq r := by unfold nsq; positivity

theorem one_add_nsq_pos (r : Fin 3 → ℝ) : 0 < 1 + nsq r := by have := nsq_nonneg r; linarith

theorem one_add_mul_self_ne_zero (r : Fin 3 → ℝ) : 1 + (r 0 * r 0 + r 1 * r 1 + r 2 * r 2) ≠ 0 := by
  rw [mul_self_eq_nsq]; exact (one_add_nsq_pos r).ne'

theorem nsq_neg (r : Fin 3 → ℝ) : nsq (-r) = nsq r := by simp [nsq]

/-- unnormalised quaternion of an MRP: `(1 - |r|², 2 r)`, of norm `1 + |r|²` -/
def mrpQ (r : Fin 3 → ℝ) : Fin 4 → ℝ := ![1 - nsq r, 2 * r 0, 2 * r 1, 2 * r 2]

theorem qnormSq_mrpQ (r : Fin 3 → ℝ) : qnormSq (mrpQ r) = (1 + nsq r) ^ 2 := by
  simp [qnormSq, mrpQ, nsq]; ring

theorem qnormSq_mrpQ_ne_zero (r : Fin 3 → ℝ) : qnormSq (mrpQ r) ≠ 0 := by
  rw [qnormSq_mrpQ]; exact pow_ne_zero 2 (one_add_nsq_pos r).ne'

theorem mrpQ_neg (r : Fin 3 → ℝ) : mrpQ (-r) = qconj (mrpQ r) := by
  funext i; fin_cases i <;> simp [mrpQ, qconj, nsq]

noncomputable def mrpMat (r : Fin 3 → ℝ) : Matrix (Fin 3) (Fin 3) ℝ :=
  (1 / (1 + nsq r) ^ 2) • qmat (mrpQ r)

theorem mrpMat_eq_rotOf (r : Fin 3 → ℝ) : mrpMat r = rotOf (mrpQ r) := by rw [mrpMat, rotOf, qnormSq_mrpQ]

noncomputable def mrpUnitQ (r : Fin 3 → ℝ) : Fin 4 → ℝ := (1 / (1 + nsq r)) • mrpQ r

theorem qnormSq_mrpUnitQ (r : Fin 3 → ℝ) : qnormSq (mrpUnitQ r) = 1 := by
  have h := one_add_nsq_pos r
  rw [mrpUnitQ, qnormSq_smul, qnormSq_mrpQ]; field_simp

theorem mrpMat_eq_qmat (r : Fin 3 → ℝ) : mrpMat r = qmat (mrpUnitQ r) := by
  rw [mrpMat_eq_rotOf, ← rotOf_of_unit (qnormSq_mrpUnitQ r), mrpUnitQ,
    rotOf_smul (one_div_ne_zero (one_add_nsq_pos r).ne')]

theorem mrpMat_orthogonal (r : Fin 3 → ℝ) :
    (mrpMat r).transpose * mrpMat r = 1 ∧ (mrpMat r).det = 1 := by
  rw [mrpMat_eq_qmat]
  exact qmat_orthogonal _ (qnormSq_mrpUnitQ r)

theorem mrpMat_neg_mul (r : Fin 3 → ℝ) : mrpMat (-r) * mrpMat r = 1 := by
  rw [mrpMat_eq_rotOf, mrpMat_eq_rotOf, mrpQ_neg, rotOf_conj_mul (qnormSq_mrpQ_ne_zero r)]

theorem mrpMat_zero : mrpMat 0 = 1 := by
  have h : mrpQ 0 = ![1, 0, 0, 0] := by simp [mrpQ, nsq]
  rw [mrpMat, h, qmat_one]; simp [nsq]

theorem mrpMat_transpose (r : Fin 3 → ℝ) : (mrpMat r).transpose = mrpMat (-r) := by
  unfold mrpMat; rw [Matrix.transpose_smul, qmat_transpose, nsq_neg, mrpQ_neg]

def mrpDen (a b : Fin 3 → ℝ) : ℝ := 1 + nsq a * nsq b - 2 * dot3 b a

def mrpNum (a b : Fin 3 → ℝ) : Fin 3 → ℝ := fun i =>
  (1 - nsq a) * b i + (1 - nsq b) * a i - 2 * cross b a i

noncomputable def mrpMul (a b : Fin 3 → ℝ) : Fin 3 → ℝ := fun i => mrpNum a b i / mrpDen a b

theorem mrpNum_sq (a b : Fin 3 → ℝ) :
    mrpDen a b ^ 2 - nsq (mrpNum a b)
      = mrpDen a b * ((1 - nsq a) * (1 - nsq b) - 4 * dot3 a b) := by
  simp [nsq, mrpNum, mrpDen, dot3, cross]; ring

theorem nsq_mrpMul (a b : Fin 3 → ℝ) : nsq (mrpMul a b) = nsq (mrpNum a b) / mrpDen a b ^ 2 := by
  simp only [nsq, mrpMul, div_pow]; ring

theorem mrpQ_mrpMul (a b : Fin 3 → ℝ) (h : mrpDen a b ≠ 0) :
    mrpDen a b • mrpQ (mrpMul a b) = qmul (mrpQ a) (mrpQ b) := by
  have h1 := mrpNum_sq a b
  have hn := nsq_mrpMul a b
  funext i
  fin_cases i
  · have e1 : mrpDen a b * (1 - nsq (mrpMul a b))
        = (1 - nsq a) * (1 - nsq b) - 4 * dot3 a b := by
      rw [hn]
      have : mrpDen a b * (1 - nsq (mrpNum a b) / mrpDen a b ^ 2)
          = (mrpDen a b ^ 2 - nsq (mrpNum a b)) / mrpDen a b := by field_simp
      rw [this, h1]; field_simp
    have e2 : qmul (mrpQ a) (mrpQ b) 0 = (1 - nsq a) * (1 - nsq b) - 4 * dot3 a b := by
      simp [qmul, mrpQ, dot3]; ring
    show (mrpDen a b • mrpQ (mrpMul a b)) 0 = qmul (mrpQ a) (mrpQ b) 0
    rw [e2, ← e1]; simp [mrpQ]
  all_goals
    simp [mrpQ, qmul, mrpMul, mrpNum, cross, nsq]
    field_simp
    ring

theorem mrpMat_mul (a b : Fin 3 → ℝ) (h : mrpDen a b ≠ 0) :
    mrpMat (mrpMul a b) = mrpMat a * mrpMat b := by
  rw [mrpMat_eq_rotOf, mrpMat_eq_rotOf, mrpMat_eq_rotOf, ← rotOf_mul, ← mrpQ_mrpMul a b h, rotOf_smul h]

theorem nsq_mulVec_of_orthogonal (R : Matrix (Fin 3) (Fin 3) ℝ) (h : R.transpose * R = 1) (v : Fin 3 → ℝ) :
    nsq (R.mulVec v) = nsq v := by
  have e : ∀ u : Fin 3 → ℝ, nsq u = u ⬝ᵥ u := fun u => by
    simp only [nsq, dotProduct, Fin.sum_univ_three, pow_two]
  rw [e, e, Matrix.dotProduct_mulVec, Matrix.vecMul_mulVec, h, Matrix.vecMul_one]

theorem nsq_mrpMat_transpose_mulVec (r v : Fin 3 → ℝ) : nsq ((mrpMat r).transpose.mulVec v) = nsq v :=
  nsq_mulVec_of_orthogonal _ (by rw [Matrix.transpose_transpose]; exact mul_eq_one_comm.mp (mrpMat_orthogonal r).1) v

/-- MRP of a unit quaternion with non-negative scalar part -/
noncomputable def quatToMrp (q : Fin 4 → ℝ) : Fin 3 → ℝ := ![q 1 / (1 + q 0), q 2 / (1 + q 0), q 3 / (1 + q 0)]

theorem one_add_nsq_quatToMrp (q : Fin 4 → ℝ) (hq : qnormSq q = 1) (h0 : 0 ≤ q 0) :
    1 + nsq (quatToMrp q) = 2 / (1 + q 0) := by
  have hp : (1 + q 0) ≠ 0 := by linarith
  simp only [nsq, quatToMrp, qnormSq] at *
  simp
  field_simp
  linear_combination hq

theorem mrpQ_quatToMrp (q : Fin 4 → ℝ) (hq : qnormSq q = 1) (h0 : 0 ≤ q 0) :
    mrpQ (quatToMrp q) = (2 / (1 + q 0)) • q := by
  have h := one_add_nsq_quatToMrp q hq h0
  have hp : (1 + q 0) ≠ 0 := by linarith
  funext i
  fin_cases i
  · have : 1 - nsq (quatToMrp q) = 2 - 2 / (1 + q 0) := by linarith
    simp only [mrpQ, Fin.zero_eta, Matrix.cons_val_zero, Pi.smul_apply, smul_eq_mul]
    rw [this]; field_simp; ring
  all_goals simp [mrpQ, quatToMrp]; field_simp

theorem mrpMat_quatToMrp (q : Fin 4 → ℝ) (hq : qnormSq q = 1) (h0 : 0 ≤ q 0) :
    mrpMat (quatToMrp q) = qmat q := by
  have hp : 2 / (1 + q 0) ≠ 0 := div_ne_zero two_ne_zero (by linarith)
  rw [mrpMat_eq_rotOf, mrpQ_quatToMrp q hq h0, rotOf_smul hp, rotOf_of_unit hq]

theorem nsq_shadow (r : Fin 3 → ℝ) (hr : nsq r ≠ 0) : nsq (fun i => -(r i / nsq r)) = 1 / nsq r := by
  have : nsq (fun i => -(r i / nsq r)) = nsq r / (nsq r) ^ 2 := by
    simp only [nsq]; field_simp
  rw [this]; field_simp

theorem mrpMat_shadow (r : Fin 3 → ℝ) (hr : nsq r ≠ 0) :
    mrpMat (fun i => -(r i / nsq r)) = mrpMat r := by
  have hn := nsq_shadow r hr
  have hq : mrpQ (fun i => -(r i / nsq r)) = (-(1 / nsq r)) • mrpQ r := by
    funext i
    fin_cases i
    · simp only [mrpQ, Fin.zero_eta, Matrix.cons_val_zero, Pi.smul_apply, smul_eq_mul]
      rw [hn]; field_simp; ring
    all_goals simp [mrpQ]; field_simp
  rw [mrpMat_eq_rotOf, hq, rotOf_smul (neg_ne_zero.mpr (one_div_ne_zero hr)), mrpMat_eq_rotOf]

theorem nsq_shadow_le (r : Fin 3 → ℝ) (h : 1 < nsq r) : nsq (fun i => -(r i / nsq r)) ≤ 1 := by
  rw [nsq_shadow r (by linarith), div_le_one (by linarith)]; linarith

end Rot
