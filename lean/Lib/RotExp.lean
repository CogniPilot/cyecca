/-
  Lib/RotExp.lean — closed form of the exponential of an element with A⁴ = −θ² A²
  (so(2), se(2), so(3), se(3), se₂(3), ℝⁿ in their matrix forms).  Code-independent.

      exp A = 1 + A + c(θ) A² + d(θ) A³,
      c(θ) = (1 − cos θ)/θ²,  d(θ) = (θ − sin θ)/θ³     (1/2 and 1/6 at θ = 0)
  and s(θ) = sin θ/θ = 1 − θ² d(θ) (`Rot.sFun`), the coefficient Rodrigues' formula has after reduction by A³ = −θ² A.
  The relations of c, d, s to cos, sin and to the half angle are at the end.
-/
import Lib.AltSeries
import Mathlib.Analysis.Normed.Algebra.Exponential

open NormedSpace Nat Tail

namespace RotExp

theorem pow_four_of_cube {R : Type*} [Ring R] [Algebra ℝ R] {A : R} {s : ℝ} (h : A ^ 3 = s • A) :
    A ^ 4 = s • A ^ 2 := by
  rw [pow_succ, h, smul_mul_assoc, ← pow_two]

variable {𝔸 : Type*} [NormedRing 𝔸] [NormedAlgebra ℝ 𝔸]

/-- a factor that `A ^ 2` scales by `s` absorbs the even powers of `A` -/
theorem pow_mul_of_sq_mul {A B : 𝔸} {s : ℝ} (h : A ^ 2 * B = s • B) (k : ℕ) : A ^ (2 * k) * B = s ^ k • B := by
  induction k with
  | zero => simp
  | succ k ih => rw [Nat.mul_succ, pow_add, mul_assoc, h, mul_smul_comm, ih, smul_smul, ← _root_.pow_succ']

theorem pow_even_of_rel {A : 𝔸} {t : ℝ} (h : A ^ 4 = (-(t ^ 2)) • A ^ 2) (k : ℕ) :
    A ^ (2 * k + 2) = ((-(t ^ 2)) ^ k) • A ^ 2 := by
  rw [pow_add, pow_mul_of_sq_mul (by rw [← pow_add, h])]

theorem pow_odd_of_rel {A : 𝔸} {t : ℝ} (h : A ^ 4 = (-(t ^ 2)) • A ^ 2) (k : ℕ) :
    A ^ (2 * k + 3) = ((-(t ^ 2)) ^ k) • A ^ 3 := by
  rw [pow_add, pow_mul_of_sq_mul (by rw [← pow_add, pow_succ _ 4, h, smul_mul_assoc, ← pow_succ])]

theorem hasSum_expSeries_of_rel {A : 𝔸} {t : ℝ} (h : A ^ 4 = (-(t ^ 2)) • A ^ 2) {c d : ℝ}
    (hc : HasSum (aTerm 2 (t ^ 2)) c) (hd : HasSum (aTerm 3 (t ^ 2)) d) :
    HasSum (fun n => expSeries ℝ 𝔸 n fun _ => A) (1 + A + c • A ^ 2 + d • A ^ 3) := by
  rw [← hasSum_nat_add_iff' 2]
  have e : HasSum (fun k : ℕ => expSeries ℝ 𝔸 (2 * k + 2) fun _ => A) (c • A ^ 2) := by
    convert hc.smul_const (A ^ 2) using 1
    ext k
    rw [expSeries_apply_eq, pow_even_of_rel h, smul_smul]
    congr 1
    rw [aTerm, neg_pow]; ring
  have o : HasSum (fun k : ℕ => expSeries ℝ 𝔸 (2 * k + 1 + 2) fun _ => A) (d • A ^ 3) := by
    convert hd.smul_const (A ^ 3) using 1
    ext k
    rw [expSeries_apply_eq, show 2 * k + 1 + 2 = 2 * k + 3 by ring, pow_odd_of_rel h, smul_smul]
    congr 1
    rw [aTerm, neg_pow]; ring
  have := HasSum.even_add_odd (f := fun n => expSeries ℝ 𝔸 (n + 2) fun _ => A) e o
  have e2 : (1 + A + c • A ^ 2 + d • A ^ 3 - ∑ i ∈ Finset.range 2, (expSeries ℝ 𝔸 i) fun _ => A)
      = c • A ^ 2 + d • A ^ 3 := by
    simp [Finset.sum_range_succ, expSeries_apply_eq]
    abel
  rw [e2]
  exact this

/-- analytic coefficient `(1 − cos t)/t²`, extended by 1/2 at 0 -/
noncomputable def cFun (t : ℝ) : ℝ := if t = 0 then 1 / 2 else (1 - Real.cos t) / t ^ 2
/-- analytic coefficient `(t − sin t)/t³`, extended by 1/6 at 0 -/
noncomputable def dFun (t : ℝ) : ℝ := if t = 0 then 1 / 6 else (t - Real.sin t) / t ^ 3

/-- `(t²/2 + cos t − 1)/t⁴`, the coefficient of ω^² in the position integral of the strap-down flow (Lib/Flow) -/
noncomputable def eFun (t : ℝ) : ℝ := (t ^ 2 / 2 + Real.cos t - 1) / t ^ 4

theorem hasSum_cTerm (t : ℝ) : HasSum (aTerm 2 (t ^ 2)) (cFun t) := by
  unfold cFun
  by_cases h0 : t = 0
  · rw [if_pos h0, h0, zero_pow two_ne_zero]; exact hasSum_aTerm_at_zero 2
  · rw [if_neg h0]
    simpa using hasSum_aTerm_add_two (pow_ne_zero 2 h0) (hasSum_aTerm_cos t)

theorem hasSum_dTerm (t : ℝ) : HasSum (aTerm 3 (t ^ 2)) (dFun t) := by
  unfold dFun
  by_cases h0 : t = 0
  · rw [if_pos h0, h0, zero_pow two_ne_zero]
    simpa [Nat.factorial] using hasSum_aTerm_at_zero 3
  · rw [if_neg h0]
    convert hasSum_aTerm_add_two (pow_ne_zero 2 h0) (hasSum_aTerm_sin t h0) using 1
    rw [Nat.factorial_one, Nat.cast_one]
    field_simp

theorem exp_eq_closed_form {A : 𝔸} {t : ℝ} (h : A ^ 4 = (-(t ^ 2)) • A ^ 2) :
    exp A = 1 + A + cFun t • A ^ 2 + dFun t • A ^ 3 := by
  rw [exp_eq_tsum ℝ]
  simpa only [expSeries_apply_eq] using (hasSum_expSeries_of_rel h (hasSum_cTerm t) (hasSum_dTerm t)).tsum_eq

end RotExp

namespace Rot
open RotExp

/-- `sin t / t`, extended by 1 at 0 -/
noncomputable def sFun (t : ℝ) : ℝ := if t = 0 then 1 else Real.sin t / t

theorem sFun_eq (t : ℝ) : sFun t = 1 - t ^ 2 * dFun t := by
  unfold sFun dFun
  by_cases h : t = 0
  · simp [h]
  · simp only [if_neg h]; field_simp; ring

theorem cos_eq_cFun (t : ℝ) : Real.cos t = 1 - t ^ 2 * cFun t := by
  unfold cFun
  by_cases h : t = 0
  · simp [h]
  · simp only [if_neg h]; field_simp; ring

theorem sin_eq_sFun (t : ℝ) : Real.sin t = t * sFun t := by
  unfold sFun
  by_cases h : t = 0
  · simp [h]
  · simp only [if_neg h]; field_simp

theorem sFun_double (h : ℝ) : sFun (2 * h) = Real.cos h * sFun h := by
  unfold sFun
  by_cases h0 : h = 0
  · simp [h0]
  · have h2 : 2 * h ≠ 0 := by simpa using h0
    rw [if_neg h2, if_neg h0, Real.sin_two_mul]; field_simp

theorem cFun_double (h : ℝ) : cFun (2 * h) = sFun h ^ 2 / 2 := by
  unfold cFun sFun
  by_cases h0 : h = 0
  · simp [h0]
  · have h2 : 2 * h ≠ 0 := by simpa using h0
    rw [if_neg h2, if_neg h0, Real.cos_two_mul]
    have := Real.sin_sq_add_cos_sq h
    field_simp
    nlinarith [this]

end Rot
