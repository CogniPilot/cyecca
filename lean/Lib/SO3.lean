/-
  Lib/SO3.lean — proper rotation matrices: the quadratic relations of SO(3) and
  Shepperd's matrix-to-quaternion extraction (code-independent).
-/
import Lib.Rot
import Mathlib.LinearAlgebra.Matrix.Adjugate

namespace Rot
open Matrix

structure IsRot (R : Matrix (Fin 3) (Fin 3) ℝ) : Prop where
  orth : R.transpose * R = 1
  det : R.det = 1

theorem IsRot.orth' {R : Matrix (Fin 3) (Fin 3) ℝ} (h : IsRot R) : R * R.transpose = 1 :=
  mul_eq_one_comm.mp h.orth

theorem IsRot.adjugate {R : Matrix (Fin 3) (Fin 3) ℝ} (h : IsRot R) : R.adjugate = R.transpose := by
  have h1 : R * R.adjugate = 1 := by rw [Matrix.mul_adjugate, h.det, one_smul]
  calc R.adjugate = (R.transpose * R) * R.adjugate := by rw [h.orth, Matrix.one_mul]
    _ = R.transpose * (R * R.adjugate) := by rw [Matrix.mul_assoc]
    _ = R.transpose := by rw [h1, Matrix.mul_one]

/-- the 21 quadratic relations: columns orthonormal, rows orthonormal, and `R` is its own cofactor matrix
    (entries as `Matrix.adjugate_fin_three` writes them) -/
theorem IsRot.rels {R : Matrix (Fin 3) (Fin 3) ℝ} (h : IsRot R) :
    (R 0 0 * R 0 0 + R 1 0 * R 1 0 + R 2 0 * R 2 0 = 1 ∧ R 0 1 * R 0 1 + R 1 1 * R 1 1 + R 2 1 * R 2 1 = 1
      ∧ R 0 2 * R 0 2 + R 1 2 * R 1 2 + R 2 2 * R 2 2 = 1 ∧ R 0 0 * R 0 1 + R 1 0 * R 1 1 + R 2 0 * R 2 1 = 0
      ∧ R 0 0 * R 0 2 + R 1 0 * R 1 2 + R 2 0 * R 2 2 = 0 ∧ R 0 1 * R 0 2 + R 1 1 * R 1 2 + R 2 1 * R 2 2 = 0)
    ∧ (R 0 0 * R 0 0 + R 0 1 * R 0 1 + R 0 2 * R 0 2 = 1 ∧ R 1 0 * R 1 0 + R 1 1 * R 1 1 + R 1 2 * R 1 2 = 1
      ∧ R 2 0 * R 2 0 + R 2 1 * R 2 1 + R 2 2 * R 2 2 = 1 ∧ R 0 0 * R 1 0 + R 0 1 * R 1 1 + R 0 2 * R 1 2 = 0
      ∧ R 0 0 * R 2 0 + R 0 1 * R 2 1 + R 0 2 * R 2 2 = 0 ∧ R 1 0 * R 2 0 + R 1 1 * R 2 1 + R 1 2 * R 2 2 = 0)
    ∧ (R 1 1 * R 2 2 - R 1 2 * R 2 1 = R 0 0 ∧ -(R 1 0 * R 2 2) + R 1 2 * R 2 0 = R 0 1
      ∧ R 1 0 * R 2 1 - R 1 1 * R 2 0 = R 0 2 ∧ -(R 0 1 * R 2 2) + R 0 2 * R 2 1 = R 1 0
      ∧ R 0 0 * R 2 2 - R 0 2 * R 2 0 = R 1 1 ∧ -(R 0 0 * R 2 1) + R 0 1 * R 2 0 = R 1 2
      ∧ R 0 1 * R 1 2 - R 0 2 * R 1 1 = R 2 0 ∧ -(R 0 0 * R 1 2) + R 0 2 * R 1 0 = R 2 1
      ∧ R 0 0 * R 1 1 - R 0 1 * R 1 0 = R 2 2) := by
  have c : ∀ i j, R 0 i * R 0 j + R 1 i * R 1 j + R 2 i * R 2 j = (1 : Matrix (Fin 3) (Fin 3) ℝ) i j :=
    fun i j => by rw [← h.orth, Matrix.mul_apply, Fin.sum_univ_three]; rfl
  have r : ∀ i j, R i 0 * R j 0 + R i 1 * R j 1 + R i 2 * R j 2 = (1 : Matrix (Fin 3) (Fin 3) ℝ) i j :=
    fun i j => by rw [← h.orth', Matrix.mul_apply, Fin.sum_univ_three]; rfl
  have k : ∀ i j, R.adjugate i j = R j i := fun i j => by rw [h.adjugate]; rfl
  rw [adjugate_fin_three] at k
  exact ⟨⟨c 0 0, c 1 1, c 2 2, c 0 1, c 0 2, c 1 2⟩, ⟨r 0 0, r 1 1, r 2 2, r 0 1, r 0 2, r 1 2⟩,
    ⟨k 0 0, k 1 0, k 2 0, k 0 1, k 1 1, k 2 1, k 0 2, k 1 2, k 2 2⟩⟩

theorem isRot_qmat (q : Fin 4 → ℝ) (h : qnormSq q = 1) : IsRot (qmat q) :=
  ⟨(qmat_orthogonal q h).1, (qmat_orthogonal q h).2⟩

theorem isRot_mrpMat (r : Fin 3 → ℝ) : IsRot (mrpMat r) :=
  ⟨(mrpMat_orthogonal r).1, (mrpMat_orthogonal r).2⟩

theorem IsRot.trace_bounds {R : Matrix (Fin 3) (Fin 3) ℝ} (h : IsRot R) :
    -1 ≤ R 0 0 + R 1 1 + R 2 2 ∧ R 0 0 + R 1 1 + R 2 2 ≤ 3 := by
  obtain ⟨⟨c1, c2, c3, -, -, -⟩, -, ⟨k1, -, -, -, k5, -, -, -, k9⟩⟩ := h.rels
  -- 4 (1 + tr) = (1 + tr)² + |axial vector of R - Rᵀ|²  and  2 (3 - tr) = ‖R - 1‖²
  have lo : 0 ≤ 4 * (1 + (R 0 0 + R 1 1 + R 2 2)) := by
    rw [show 4 * (1 + (R 0 0 + R 1 1 + R 2 2)) = (1 + (R 0 0 + R 1 1 + R 2 2)) ^ 2 + (R 2 1 - R 1 2) ^ 2
        + (R 0 2 - R 2 0) ^ 2 + (R 1 0 - R 0 1) ^ 2 by linear_combination -c1 - c2 - c3 - 2 * k1 - 2 * k5 - 2 * k9]
    positivity
  have hi : 0 ≤ 2 * (3 - (R 0 0 + R 1 1 + R 2 2)) := by
    rw [show 2 * (3 - (R 0 0 + R 1 1 + R 2 2)) = (R 0 0 - 1) ^ 2 + R 1 0 ^ 2 + R 2 0 ^ 2 + R 0 1 ^ 2
        + (R 1 1 - 1) ^ 2 + R 2 1 ^ 2 + R 0 2 ^ 2 + R 1 2 ^ 2 + (R 2 2 - 1) ^ 2 by linear_combination -c1 - c2 - c3]
    positivity
  constructor <;> linarith

/-! ### Shepperd's method

For `R = qmat q` with `q = (w, x, y, z)` of unit norm, `4 q qᵀ` is the symmetric matrix
```
  1 + R00 + R11 + R22   R21 - R12             R02 - R20             R10 - R01
  R21 - R12             1 + R00 - R11 - R22   R01 + R10             R02 + R20
  R02 - R20             R01 + R10             1 - R00 + R11 - R22   R12 + R21
  R10 - R01             R02 + R20             R12 + R21             1 - R00 - R11 + R22
```
`K(R)`, linear in `R`.  Conversely (`qmat_of_products`) any `q` with `4 q qᵀ = K(R)` is of unit norm with
`qmat q = R`, for any matrix `R`.  For a proper rotation `K(R)` has rank one, so every row `k` with `K_kk = s² ≠ 0`
yields such a `q`, namely that row divided by `2 s`; the four branches are the four choices of `k`.  The rank-one
property is used entry by entry: `K_ka K_kb = K_kk K_ab` is a combination of four of the 21 relations, named where
it is used. -/

theorem qmat_of_products (R : Matrix (Fin 3) (Fin 3) ℝ) (w x y z : ℝ)
    (hww : 4 * (w * w) = 1 + R 0 0 + R 1 1 + R 2 2) (hxx : 4 * (x * x) = 1 + R 0 0 - R 1 1 - R 2 2)
    (hyy : 4 * (y * y) = 1 - R 0 0 + R 1 1 - R 2 2) (hzz : 4 * (z * z) = 1 - R 0 0 - R 1 1 + R 2 2)
    (hwx : 4 * (w * x) = R 2 1 - R 1 2) (hwy : 4 * (w * y) = R 0 2 - R 2 0) (hwz : 4 * (w * z) = R 1 0 - R 0 1)
    (hxy : 4 * (x * y) = R 0 1 + R 1 0) (hxz : 4 * (x * z) = R 0 2 + R 2 0) (hyz : 4 * (y * z) = R 1 2 + R 2 1) :
    qnormSq ![w, x, y, z] = 1 ∧ qmat ![w, x, y, z] = R := by
  constructor
  · simp only [qnormSq, cons_val]
    linear_combination (hww + hxx + hyy + hzz) / 4
  · rw [eta_fin_three R]
    simp only [qmat, cons_val]
    lit_entries
    · linear_combination (hww + hxx - hyy - hzz) / 4
    · linear_combination (hxy - hwz) / 2
    · linear_combination (hxz + hwy) / 2
    · linear_combination (hxy + hwz) / 2
    · linear_combination (hww + hyy - hxx - hzz) / 4
    · linear_combination (hyz - hwx) / 2
    · linear_combination (hxz - hwy) / 2
    · linear_combination (hyz + hwx) / 2
    · linear_combination (hww + hzz - hxx - hyy) / 4

/-- the product of the pivot `s / 2` with another component of row `k` divided by `2 s` -/
theorem pivot_mul {s : ℝ} (hs0 : s ≠ 0) (a : ℝ) :
    4 * (s / 2 * (a / (2 * s))) = a ∧ 4 * (a / (2 * s) * (s / 2)) = a := by
  constructor <;> field_simp <;> ring

/-- the product of two other components, from the vanishing minor `K_ka K_kb = K_kk K_ab` -/
theorem mul_of_minor {s K a b c : ℝ} (hs : s * s = K) (hs0 : s ≠ 0) (hm : a * b = K * c) :
    4 * (a / (2 * s) * (b / (2 * s))) = c := by
  subst hs; field_simp; linear_combination 4 * hm

theorem shepperd1 {R : Matrix (Fin 3) (Fin 3) ℝ} (h : IsRot R) (s : ℝ)
    (hs : s * s = 1 + R 0 0 + R 1 1 + R 2 2) (hs0 : s ≠ 0) :
    qnormSq ![s / 2, (R 2 1 - R 1 2) / (2 * s), (R 0 2 - R 2 0) / (2 * s), (R 1 0 - R 0 1) / (2 * s)] = 1
    ∧ qmat ![s / 2, (R 2 1 - R 1 2) / (2 * s), (R 0 2 - R 2 0) / (2 * s), (R 1 0 - R 0 1) / (2 * s)] = R := by
  obtain ⟨⟨c1, c2, c3, c4, c5, c6⟩, ⟨-, r2, r3, r4, r5, r6⟩, ⟨k1, k2, k3, k4, k5, k6, k7, k8, k9⟩⟩ :=
    h.rels
  exact qmat_of_products R _ _ _ _ (by linear_combination hs)
    (mul_of_minor hs hs0 (by linear_combination -c1 + r2 + r3 + 2 * k1))
    (mul_of_minor hs hs0 (by linear_combination c1 + c3 - r2 + 2 * k5))
    (mul_of_minor hs hs0 (by linear_combination c1 + c2 - r3 + 2 * k9))
    (pivot_mul hs0 _).1 (pivot_mul hs0 _).1 (pivot_mul hs0 _).1
    (mul_of_minor hs hs0 (by linear_combination -c4 - r4 + k2 + k4))
    (mul_of_minor hs hs0 (by linear_combination -c5 - r5 + k3 + k7))
    (mul_of_minor hs hs0 (by linear_combination -c6 - r6 + k6 + k8))

theorem shepperd2 {R : Matrix (Fin 3) (Fin 3) ℝ} (h : IsRot R) (s : ℝ)
    (hs : s * s = 1 + R 0 0 - R 1 1 - R 2 2) (hs0 : s ≠ 0) :
    qnormSq ![(R 2 1 - R 1 2) / (2 * s), s / 2, (R 0 1 + R 1 0) / (2 * s), (R 0 2 + R 2 0) / (2 * s)] = 1
    ∧ qmat ![(R 2 1 - R 1 2) / (2 * s), s / 2, (R 0 1 + R 1 0) / (2 * s), (R 0 2 + R 2 0) / (2 * s)] = R := by
  obtain ⟨⟨c1, c2, c3, c4, c5, c6⟩, ⟨-, r2, r3, r4, r5, r6⟩, ⟨k1, k2, k3, k4, k5, k6, k7, k8, k9⟩⟩ :=
    h.rels
  exact qmat_of_products R _ _ _ _
    (mul_of_minor hs hs0 (by linear_combination -c1 + r2 + r3 + 2 * k1))
    (by linear_combination hs)
    (mul_of_minor hs hs0 (by linear_combination c1 + c2 - r3 - 2 * k9))
    (mul_of_minor hs hs0 (by linear_combination c1 + c3 - r2 - 2 * k5))
    (pivot_mul hs0 _).2
    (mul_of_minor hs hs0 (by linear_combination -c5 + r5 + k3 - k7))
    (mul_of_minor hs hs0 (by linear_combination c4 - r4 - k2 + k4))
    (pivot_mul hs0 _).1 (pivot_mul hs0 _).1
    (mul_of_minor hs hs0 (by linear_combination c6 + r6 + k6 + k8))

theorem shepperd3 {R : Matrix (Fin 3) (Fin 3) ℝ} (h : IsRot R) (s : ℝ)
    (hs : s * s = 1 - R 0 0 + R 1 1 - R 2 2) (hs0 : s ≠ 0) :
    qnormSq ![(R 0 2 - R 2 0) / (2 * s), (R 0 1 + R 1 0) / (2 * s), s / 2, (R 1 2 + R 2 1) / (2 * s)] = 1
    ∧ qmat ![(R 0 2 - R 2 0) / (2 * s), (R 0 1 + R 1 0) / (2 * s), s / 2, (R 1 2 + R 2 1) / (2 * s)] = R := by
  obtain ⟨⟨c1, c2, c3, c4, c5, c6⟩, ⟨-, r2, r3, r4, r5, r6⟩, ⟨k1, k2, k3, k4, k5, k6, k7, k8, k9⟩⟩ :=
    h.rels
  exact qmat_of_products R _ _ _ _
    (mul_of_minor hs hs0 (by linear_combination c1 + c3 - r2 + 2 * k5))
    (mul_of_minor hs hs0 (by linear_combination c1 + c2 - r3 - 2 * k9))
    (by linear_combination hs)
    (mul_of_minor hs hs0 (by linear_combination -c1 + r2 + r3 - 2 * k1))
    (mul_of_minor hs hs0 (by linear_combination c6 - r6 - k6 + k8))
    (pivot_mul hs0 _).2
    (mul_of_minor hs hs0 (by linear_combination -c4 + r4 - k2 + k4))
    (pivot_mul hs0 _).2
    (mul_of_minor hs hs0 (by linear_combination c5 + r5 + k3 + k7))
    (pivot_mul hs0 _).1

theorem shepperd4 {R : Matrix (Fin 3) (Fin 3) ℝ} (h : IsRot R) (s : ℝ)
    (hs : s * s = 1 - R 0 0 - R 1 1 + R 2 2) (hs0 : s ≠ 0) :
    qnormSq ![(R 1 0 - R 0 1) / (2 * s), (R 0 2 + R 2 0) / (2 * s), (R 1 2 + R 2 1) / (2 * s), s / 2] = 1
    ∧ qmat ![(R 1 0 - R 0 1) / (2 * s), (R 0 2 + R 2 0) / (2 * s), (R 1 2 + R 2 1) / (2 * s), s / 2] = R := by
  obtain ⟨⟨c1, c2, c3, c4, c5, c6⟩, ⟨-, r2, r3, r4, r5, r6⟩, ⟨k1, k2, k3, k4, k5, k6, k7, k8, k9⟩⟩ :=
    h.rels
  exact qmat_of_products R _ _ _ _
    (mul_of_minor hs hs0 (by linear_combination c1 + c2 - r3 + 2 * k9))
    (mul_of_minor hs hs0 (by linear_combination c1 + c3 - r2 - 2 * k5))
    (mul_of_minor hs hs0 (by linear_combination -c1 + r2 + r3 - 2 * k1))
    (by linear_combination hs)
    (mul_of_minor hs hs0 (by linear_combination -c6 + r6 - k6 + k8))
    (mul_of_minor hs hs0 (by linear_combination c5 - r5 + k3 - k7))
    (pivot_mul hs0 _).2
    (mul_of_minor hs hs0 (by linear_combination c4 + r4 + k2 + k4))
    (pivot_mul hs0 _).2 (pivot_mul hs0 _).2

end Rot
