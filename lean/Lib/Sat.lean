/-
  Lib/Sat.lean — clamps, four-fold max/min, the least shift of an interval into a range, norm saturation,
  C `remainder` (code-independent helper lemmas).
-/
import Cas.Real

namespace Sat

/-- CasADi's `saturate(y, 0, F)` after lowering: `y > F ? F : (!(y < 0) ? y : 0)` -/
noncomputable def clamp0 (F y : ℝ) : ℝ := if F < y then F else if ¬ y < 0 then y else 0

theorem clamp0_bounds {F : ℝ} (hF : 0 ≤ F) (y : ℝ) : 0 ≤ clamp0 F y ∧ clamp0 F y ≤ F := by
  unfold clamp0; split_ifs with h1 h2 <;> constructor <;> linarith

theorem clamp0_id {F y : ℝ} (h0 : 0 ≤ y) (h1 : y ≤ F) : clamp0 F y = y := by
  rw [clamp0, if_neg (not_lt.mpr h1), if_pos (not_lt.mpr h0)]

theorem clamp_bounds {lo hi : ℝ} (h : lo ≤ hi) (x : ℝ) :
    lo ≤ (if hi < x then hi else if x < lo then lo else x)
      ∧ (if hi < x then hi else if x < lo then lo else x) ≤ hi := by
  split_ifs with h1 h2 <;> constructor <;> linarith

theorem abs_clamp_le {m : ℝ} (h : 0 ≤ m) (x : ℝ) : |if m < x then m else if x < -m then -m else x| ≤ m :=
  abs_le.mpr (clamp_bounds (by linarith) x)

theorem clamp_id {lo hi x : ℝ} (h1 : lo ≤ x) (h2 : x ≤ hi) :
    (if hi < x then hi else if x < lo then lo else x) = x := by
  rw [if_neg (not_lt.mpr h2), if_neg (not_lt.mpr h1)]

theorem le_max4 (a b c d : ℝ) :
    a ≤ max (max (max a b) c) d ∧ b ≤ max (max (max a b) c) d
      ∧ c ≤ max (max (max a b) c) d ∧ d ≤ max (max (max a b) c) d :=
  ⟨le_trans (le_trans (le_max_left a b) (le_max_left _ c)) (le_max_left _ d),
   le_trans (le_trans (le_max_right a b) (le_max_left _ c)) (le_max_left _ d),
   le_trans (le_max_right _ c) (le_max_left _ d), le_max_right _ d⟩

theorem min4_le (a b c d : ℝ) :
    min (min (min a b) c) d ≤ a ∧ min (min (min a b) c) d ≤ b
      ∧ min (min (min a b) c) d ≤ c ∧ min (min (min a b) c) d ≤ d :=
  ⟨le_trans (min_le_left _ d) (le_trans (min_le_left _ c) (min_le_left a b)),
   le_trans (min_le_left _ d) (le_trans (min_le_left _ c) (min_le_right a b)),
   le_trans (min_le_left _ d) (min_le_right _ c), min_le_right _ d⟩

theorem max4_le {a b c d u : ℝ} (ha : a ≤ u) (hb : b ≤ u) (hc : c ≤ u) (hd : d ≤ u) :
    max (max (max a b) c) d ≤ u := max_le (max_le (max_le ha hb) hc) hd

theorem le_min4 {a b c d u : ℝ} (ha : u ≤ a) (hb : u ≤ b) (hc : u ≤ c) (hd : u ≤ d) :
    u ≤ min (min (min a b) c) d := le_min (le_min (le_min ha hb) hc) hd

/-- The displacement that brings an interval `[lo, hi]` no longer than `F` into `[0, F]` and is 0
    if it is there already: up by `-lo`, or down by `F - hi` (`add_shift_mem`); no displacement
    doing that is smaller (`abs_shift_le`). -/
noncomputable def shift (F hi lo : ℝ) : ℝ :=
  if 0 ≤ F - hi then (if 0 ≤ lo then 0 else -lo) else F - hi

theorem add_shift_mem {F hi lo s : ℝ} (hF : hi - lo ≤ F) (h1 : lo ≤ s) (h2 : s ≤ hi) :
    0 ≤ s + shift F hi lo ∧ s + shift F hi lo ≤ F := by
  unfold shift; split_ifs <;> constructor <;> linarith

theorem abs_shift_le {F hi lo δ : ℝ} (h1 : 0 ≤ lo + δ) (h2 : hi + δ ≤ F) : |shift F hi lo| ≤ |δ| := by
  unfold shift
  split_ifs with hC1 hC2
  · rw [abs_zero]; exact abs_nonneg _
  · rw [abs_of_pos (by linarith)]; exact le_trans (by linarith) (le_abs_self _)
  · rw [abs_of_neg (by linarith)]; exact le_trans (by linarith) (neg_le_abs _)

/-- norm saturation as lowered by CasADi: `‖e‖ > L ? L e/‖e‖ : e` keeps the squared norm ≤ L² -/
theorem leash (p0 p1 p2 e0 e1 e2 L : ℝ) (hL : 0 ≤ L) :
    ((p0 + if L < Real.sqrt (e0 * e0 + e1 * e1 + e2 * e2) then L * e0 / Real.sqrt (e0 * e0 + e1 * e1 + e2 * e2) else e0) - p0) ^ 2
    + ((p1 + if L < Real.sqrt (e0 * e0 + e1 * e1 + e2 * e2) then L * e1 / Real.sqrt (e0 * e0 + e1 * e1 + e2 * e2) else e1) - p1) ^ 2
    + ((p2 + if L < Real.sqrt (e0 * e0 + e1 * e1 + e2 * e2) then L * e2 / Real.sqrt (e0 * e0 + e1 * e1 + e2 * e2) else e2) - p2) ^ 2
      ≤ L ^ 2 := by
  have hS : 0 ≤ e0 * e0 + e1 * e1 + e2 * e2 :=
    add_nonneg (add_nonneg (mul_self_nonneg e0) (mul_self_nonneg e1)) (mul_self_nonneg e2)
  have hsq := Real.sq_sqrt hS
  have hn0 := Real.sqrt_nonneg (e0 * e0 + e1 * e1 + e2 * e2)
  generalize Real.sqrt (e0 * e0 + e1 * e1 + e2 * e2) = n at hsq hn0 ⊢
  split_ifs with h
  · -- scaled to length L: the squares sum to L² ‖e‖² / n² = L²
    have hn : n ≠ 0 := (lt_of_le_of_lt hL h).ne'
    have : (p0 + L * e0 / n - p0) ^ 2 + (p1 + L * e1 / n - p1) ^ 2 + (p2 + L * e2 / n - p2) ^ 2
        = L ^ 2 * ((e0 * e0 + e1 * e1 + e2 * e2) / n ^ 2) := by field_simp; ring
    rw [this, ← hsq, div_self (pow_ne_zero 2 hn), mul_one]
  · -- unchanged: ‖e‖² = n² ≤ L²
    have := pow_le_pow_left₀ hn0 (not_lt.mp h) 2
    linarith

theorem roundHalfEven_close (q : ℝ) : |q - (CasReal.roundHalfEven q : ℝ)| ≤ 1 / 2 := by
  unfold CasReal.roundHalfEven
  split_ifs with h1 h2
  · rw [Int.self_sub_floor, h1]; norm_num
  · push_cast
    rw [← sub_sub, Int.self_sub_floor, h1]; norm_num
  · exact abs_sub_round q

theorem abs_remainder_le (x y : ℝ) (hy : 0 < y) : |CasReal.remainder x y| ≤ y / 2 := by
  unfold CasReal.remainder
  have h := roundHalfEven_close (x / y)
  have : x - (CasReal.roundHalfEven (x / y) : ℝ) * y = (x / y - (CasReal.roundHalfEven (x / y) : ℝ)) * y := by
    field_simp
  rw [this, abs_mul, abs_of_pos hy]
  calc |x / y - (CasReal.roundHalfEven (x / y) : ℝ)| * y ≤ 1 / 2 * y := by
        apply mul_le_mul_of_nonneg_right h hy.le
    _ = y / 2 := by ring

end Sat
