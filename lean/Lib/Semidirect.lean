/-
  Lib/Semidirect.lean — the 4×4 / 5×5 matrices of SE(3), SE_2(3) and of their algebras, written out, and their laws.
  Each is an `affMat` / `affHat` of Lib/Affine re-indexed along `finSumFinEquiv` (a matrix is the literal of its entries,
  `Matrix.etaExpand_eq`: one `rfl`); product, inverse and the bracket of a semidirect sum come from there (the conjugation
  law in Lib/AdBlocks, powers and exponentials in Lib/ExpForms likewise); ℝⁿ is the case of linear part 1.  Also SE(2)
  with the plane rotations `rot2`.  Code-independent.
-/
import Lib.Rot
import Lib.Affine
import Mathlib.Data.Matrix.Reflection
import Mathlib.Analysis.SpecialFunctions.Trigonometric.Basic

namespace Rot
open Matrix

def se3Mat (R : Matrix (Fin 3) (Fin 3) ℝ) (p : Fin 3 → ℝ) : Matrix (Fin 4) (Fin 4) ℝ :=
  !![R 0 0, R 0 1, R 0 2, p 0;
     R 1 0, R 1 1, R 1 2, p 1;
     R 2 0, R 2 1, R 2 2, p 2;
     0, 0, 0, 1]

theorem se3Mat_eq (R : Matrix (Fin 3) (Fin 3) ℝ) (p : Fin 3 → ℝ) : se3Mat R p = blk 3 1 (affMat R (cols ![p])) :=
  etaExpand_eq (blk 3 1 (affMat R (cols ![p])))

theorem se3Mat_mul (R S : Matrix (Fin 3) (Fin 3) ℝ) (p q : Fin 3 → ℝ) :
    se3Mat R p * se3Mat S q = se3Mat (R * S) (R.mulVec q + p) := by
  rw [se3Mat_eq, se3Mat_eq, se3Mat_eq, ← map_mul, affMat_mul, mul_cols]
  congr 2; ext i j; fin_cases j; rfl

theorem se3Mat_one : se3Mat 1 0 = 1 := by
  rw [se3Mat_eq, ← map_one (blk 3 1), ← affMat_one]
  congr 2; ext i j; fin_cases j; rfl

theorem se3Mat_inv_mul {R S : Matrix (Fin 3) (Fin 3) ℝ} (h : S * R = 1) (p : Fin 3 → ℝ) :
    se3Mat S (-(S.mulVec p)) * se3Mat R p = 1 := by
  rw [se3Mat_mul, h, add_neg_cancel, se3Mat_one]

theorem se3Mat_congr {R S : Matrix (Fin 3) (Fin 3) ℝ} {p q : Fin 3 → ℝ} (h : R = S) (h' : p = q) :
    se3Mat R p = se3Mat S q := by rw [h, h']

def se3Hat (v w : Fin 3 → ℝ) : Matrix (Fin 4) (Fin 4) ℝ :=
  !![0, -w 2, w 1, v 0; w 2, 0, -w 0, v 1; -w 1, w 0, 0, v 2; 0, 0, 0, 0]

theorem se3Hat_eq (v w : Fin 3 → ℝ) : se3Hat v w = blk 3 1 (affHat (hat w) (cols ![v])) :=
  etaExpand_eq (blk 3 1 (affHat (hat w) (cols ![v])))

theorem se3Hat_commutator (v w v' w' : Fin 3 → ℝ) :
    se3Hat v w * se3Hat v' w' - se3Hat v' w' * se3Hat v w
      = se3Hat ((hat w).mulVec v' - (hat w').mulVec v) (cross w w') := by
  rw [se3Hat_eq, se3Hat_eq, se3Hat_eq, ← map_mul, ← map_mul, ← map_sub, affHat_commutator, hat_commutator, mul_cols,
    mul_cols]
  congr 2; ext i j; fin_cases j; rfl

theorem se3Hat_zero_conj (p x : Fin 3 → ℝ) : se3Hat x 0 * se3Mat 1 p = se3Mat 1 p * se3Hat x 0 := by
  rw [se3Hat_eq, se3Mat_eq, hat_zero, ← map_mul, ← map_mul, affHat_zero_conj]

theorem se3Hat_zero_mul (x y : Fin 3 → ℝ) : se3Hat x 0 * se3Hat y 0 = 0 := by
  rw [se3Hat_eq, se3Hat_eq, hat_zero, ← map_mul, affHat_zero_mul, map_zero]

theorem se3Hat_zero : se3Hat 0 0 = 0 := by
  mat_entries <;> simp [se3Hat]

def se23Mat (R : Matrix (Fin 3) (Fin 3) ℝ) (v p : Fin 3 → ℝ) : Matrix (Fin 5) (Fin 5) ℝ :=
  !![R 0 0, R 0 1, R 0 2, v 0, p 0;
     R 1 0, R 1 1, R 1 2, v 1, p 1;
     R 2 0, R 2 1, R 2 2, v 2, p 2;
     0, 0, 0, 1, 0;
     0, 0, 0, 0, 1]

theorem se23Mat_eq (R : Matrix (Fin 3) (Fin 3) ℝ) (v p : Fin 3 → ℝ) :
    se23Mat R v p = blk 3 2 (affMat R (cols ![v, p])) :=
  etaExpand_eq (blk 3 2 (affMat R (cols ![v, p])))

theorem se23Mat_mul (R S : Matrix (Fin 3) (Fin 3) ℝ) (v p w q : Fin 3 → ℝ) :
    se23Mat R v p * se23Mat S w q = se23Mat (R * S) (R.mulVec w + v) (R.mulVec q + p) := by
  rw [se23Mat_eq, se23Mat_eq, se23Mat_eq, ← map_mul, affMat_mul, mul_cols]
  congr 2; ext i j; fin_cases j <;> rfl

theorem se23Mat_one : se23Mat 1 0 0 = 1 := by
  rw [se23Mat_eq, ← map_one (blk 3 2), ← affMat_one]
  congr 2; ext i j; fin_cases j <;> rfl

theorem se23Mat_inv_mul {R S : Matrix (Fin 3) (Fin 3) ℝ} (h : S * R = 1) (v p : Fin 3 → ℝ) :
    se23Mat S (-(S.mulVec v)) (-(S.mulVec p)) * se23Mat R v p = 1 := by
  rw [se23Mat_mul, h, add_neg_cancel, add_neg_cancel, se23Mat_one]

/-! reading a matrix of SE_2(3) shape back: its rotation block and its last two columns are all a `from_Matrix` of the
    library looks at, whatever the parameter of the rotation -/

-- `h` is a variable so that `rw` finds the block whatever proof of `3 ≤ 5` the goal carries
theorem se23Mat_block (R : Matrix (Fin 3) (Fin 3) ℝ) (v p : Fin 3 → ℝ) (h : 3 ≤ 5) :
    (fun i j : Fin 3 => se23Mat R v p (Fin.castLE h i) (Fin.castLE h j)) = fun i j => R i j := by
  funext i j; fin_cases i <;> fin_cases j <;> rfl

theorem se23Mat_cols (R' R : Matrix (Fin 3) (Fin 3) ℝ) (v p : Fin 3 → ℝ) :
    se23Mat R' ![se23Mat R v p 0 3, se23Mat R v p 1 3, se23Mat R v p 2 3]
      ![se23Mat R v p 0 4, se23Mat R v p 1 4, se23Mat R v p 2 4] = se23Mat R' v p := by
  have hv : ![se23Mat R v p 0 3, se23Mat R v p 1 3, se23Mat R v p 2 3] = v := by funext i; fin_cases i <;> rfl
  have hp : ![se23Mat R v p 0 4, se23Mat R v p 1 4, se23Mat R v p 2 4] = p := by funext i; fin_cases i <;> rfl
  rw [hv, hp]

/-- the order of the columns is not that of the arguments: `a` is column 3, `v` column 4 -/
def se23Hat (v a w : Fin 3 → ℝ) : Matrix (Fin 5) (Fin 5) ℝ :=
  !![0, -w 2, w 1, a 0, v 0; w 2, 0, -w 0, a 1, v 1; -w 1, w 0, 0, a 2, v 2; 0, 0, 0, 0, 0; 0, 0, 0, 0, 0]

theorem se23Hat_eq (v a w : Fin 3 → ℝ) : se23Hat v a w = blk 3 2 (affHat (hat w) (cols ![a, v])) :=
  etaExpand_eq (blk 3 2 (affHat (hat w) (cols ![a, v])))

theorem se23Hat_commutator (v a w v' a' w' : Fin 3 → ℝ) :
    se23Hat v a w * se23Hat v' a' w' - se23Hat v' a' w' * se23Hat v a w
      = se23Hat ((hat w).mulVec v' - (hat w').mulVec v) ((hat w).mulVec a' - (hat w').mulVec a) (cross w w') := by
  rw [se23Hat_eq, se23Hat_eq, se23Hat_eq, ← map_mul, ← map_mul, ← map_sub, affHat_commutator, hat_commutator, mul_cols,
    mul_cols]
  congr 2; ext i j; fin_cases j <;> rfl

def so2Hat (t : ℝ) : Matrix (Fin 2) (Fin 2) ℝ := !![0, -t; t, 0]

def se2Hat (x y t : ℝ) : Matrix (Fin 3) (Fin 3) ℝ := !![0, -t, x; t, 0, y; 0, 0, 0]

noncomputable def rot2 (t : ℝ) : Matrix (Fin 2) (Fin 2) ℝ := !![Real.cos t, -Real.sin t; Real.sin t, Real.cos t]

theorem rot2_add (a b : ℝ) : rot2 (a + b) = rot2 a * rot2 b := by
  mat_entries <;> simp [rot2, Real.cos_add, Real.sin_add] <;> ring

theorem rot2_zero : rot2 0 = 1 := by
  simp only [rot2, Real.cos_zero, Real.sin_zero, neg_zero, mat_lit]

theorem rot2_neg_mul (a : ℝ) : rot2 (-a) * rot2 a = 1 := by
  rw [← rot2_add, neg_add_cancel, rot2_zero]

theorem so2Hat_mul_rot2 (t a : ℝ) : so2Hat t * rot2 a = rot2 a * so2Hat t := by
  simp only [so2Hat, rot2, mat_lit]
  lit_entries <;> ring

theorem se2Hat_zero : se2Hat 0 0 0 = 0 := by
  simp only [se2Hat, neg_zero]; exact (Matrix.eta_fin_three 0).symm

theorem so2Hat_zero : so2Hat 0 = 0 := by
  simp only [so2Hat, neg_zero]; exact (Matrix.eta_fin_two 0).symm

theorem se2Hat_commutator (x y t x' y' t' : ℝ) :
    se2Hat x y t * se2Hat x' y' t' - se2Hat x' y' t' * se2Hat x y t
      = se2Hat (t' * y - t * y') (t * x' - t' * x) 0 := by
  simp only [se2Hat, mat_lit]
  lit_entries <;> ring

theorem se2Hat_eq (x y t : ℝ) : se2Hat x y t = blk 2 1 (affHat (so2Hat t) (cols ![![x, y]])) :=
  etaExpand_eq (blk 2 1 (affHat (so2Hat t) (cols ![![x, y]])))

def se2Mat (R : Matrix (Fin 2) (Fin 2) ℝ) (p : Fin 2 → ℝ) : Matrix (Fin 3) (Fin 3) ℝ :=
  !![R 0 0, R 0 1, p 0; R 1 0, R 1 1, p 1; 0, 0, 1]

theorem se2Mat_eq (R : Matrix (Fin 2) (Fin 2) ℝ) (p : Fin 2 → ℝ) : se2Mat R p = blk 2 1 (affMat R (cols ![p])) :=
  etaExpand_eq (blk 2 1 (affMat R (cols ![p])))

theorem se2Mat_mul (R S : Matrix (Fin 2) (Fin 2) ℝ) (p q : Fin 2 → ℝ) :
    se2Mat R p * se2Mat S q = se2Mat (R * S) (R.mulVec q + p) := by
  rw [se2Mat_eq, se2Mat_eq, se2Mat_eq, ← map_mul, affMat_mul, mul_cols]
  congr 2; ext i j; fin_cases j; rfl

theorem se2Mat_one : se2Mat 1 0 = 1 := by
  rw [se2Mat_eq, ← map_one (blk 2 1), ← affMat_one]
  congr 2; ext i j; fin_cases j; rfl

theorem se2Hat_zero_conj (p : Fin 2 → ℝ) (x y : ℝ) : se2Hat x y 0 * se2Mat 1 p = se2Mat 1 p * se2Hat x y 0 := by
  rw [se2Hat_eq, se2Mat_eq, so2Hat_zero, ← map_mul, ← map_mul, affHat_zero_conj]

theorem se2Hat_zero_mul (x y x' y' : ℝ) : se2Hat x y 0 * se2Hat x' y' 0 = 0 := by
  rw [se2Hat_eq, se2Hat_eq, so2Hat_zero, ← map_mul, affHat_zero_mul, map_zero]

end Rot
