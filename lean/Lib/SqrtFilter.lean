/-
  Lib/SqrtFilter.lean — the algebra behind cyecca.util.sqrt_correct, for every state dimension and
  measurement dimension (index types are arbitrary finite types).

  The routine forms  B = [[Rs, H W], [0, W]],  factors  Bᵀ = Q R  (Q orthogonal, R upper triangular) and
  reads  L = Rᵀ = [[Ss, 0], [G, W⁺]]  so that  B = L Qᵀ.  Everything the filter needs follows from
  B Bᵀ = L Lᵀ, block by block.
-/
import Mathlib.Data.Matrix.Block
import Mathlib.LinearAlgebra.Matrix.PosDef
import Mathlib.Algebra.Order.Star.Real
import Mathlib.Tactic.Abel
import Mathlib.Logic.Equiv.Fin.Basic
import Mathlib.LinearAlgebra.Matrix.Notation

open Matrix

namespace SqrtFilter

variable {M N : Type} [Fintype M] [Fintype N] [DecidableEq M] [DecidableEq N]

/-- block identities with the upper-right block of B left general (C stands for H W) -/
theorem blocks' (Rs : Matrix M M ℝ) (C : Matrix M N ℝ) (W : Matrix N N ℝ)
    (Q : Matrix (M ⊕ N) (M ⊕ N) ℝ) (Ss : Matrix M M ℝ) (G : Matrix N M ℝ) (Wp : Matrix N N ℝ)
    (hQ : Qᵀ * Q = 1)
    (hB : fromBlocks Rs C 0 W = fromBlocks Ss 0 G Wp * Qᵀ) :
    Ss * Ssᵀ = C * Cᵀ + Rs * Rsᵀ ∧ G * Ssᵀ = W * Cᵀ ∧ G * Gᵀ + Wp * Wpᵀ = W * Wᵀ := by
  have h1 : fromBlocks Rs C 0 W * (fromBlocks Rs C 0 W)ᵀ
      = fromBlocks Ss 0 G Wp * (fromBlocks Ss 0 G Wp)ᵀ := by
    rw [hB, transpose_mul, transpose_transpose, Matrix.mul_assoc, ← Matrix.mul_assoc Qᵀ, hQ, Matrix.one_mul]
  simp only [fromBlocks_transpose, fromBlocks_multiply, transpose_zero, Matrix.mul_zero, Matrix.zero_mul,
    add_zero, zero_add] at h1
  rw [fromBlocks_inj] at h1
  obtain ⟨a, _, c, d⟩ := h1
  refine ⟨?_, ?_, ?_⟩
  · rw [← a]; abel
  · rw [← c]
  · rw [← d]

theorem blocks (Rs : Matrix M M ℝ) (H : Matrix M N ℝ) (W : Matrix N N ℝ)
    (Q : Matrix (M ⊕ N) (M ⊕ N) ℝ) (Ss : Matrix M M ℝ) (G : Matrix N M ℝ) (Wp : Matrix N N ℝ)
    (hQ : Qᵀ * Q = 1)
    (hB : fromBlocks Rs (H * W) 0 W = fromBlocks Ss 0 G Wp * Qᵀ) :
    Ss * Ssᵀ = H * (W * Wᵀ) * Hᵀ + Rs * Rsᵀ ∧ G * Ssᵀ = W * Wᵀ * Hᵀ ∧ G * Gᵀ + Wp * Wpᵀ = W * Wᵀ := by
  obtain ⟨a, c, d⟩ := blocks' Rs (H * W) W Q Ss G Wp hQ hB
  refine ⟨?_, ?_, d⟩
  · rw [a, transpose_mul]; simp only [Matrix.mul_assoc]
  · rw [c, transpose_mul]; simp only [Matrix.mul_assoc]

/-- the same for matrices over one flat index type K ≃ M ⊕ N, in the shape the generated programs have:
    A is the matrix handed to the QR routine (A = Bᵀ), Q R = A, Qᵀ Q = 1, R has a zero lower-left block -/
theorem flat {K : Type} [Fintype K] [DecidableEq K] (e : M ⊕ N ≃ K) (A Q R : Matrix K K ℝ)
    (hQ : Qᵀ * Q = 1) (hQR : Q * R = A)
    (hA : ∀ i j, A (e (Sum.inl j)) (e (Sum.inr i)) = 0)
    (hR : ∀ i j, R (e (Sum.inr i)) (e (Sum.inl j)) = 0) :
    let B := Aᵀ.submatrix e e
    let L := Rᵀ.submatrix e e
    L.toBlocks₁₁ * L.toBlocks₁₁ᵀ = B.toBlocks₁₂ * B.toBlocks₁₂ᵀ + B.toBlocks₁₁ * B.toBlocks₁₁ᵀ
    ∧ L.toBlocks₂₁ * L.toBlocks₁₁ᵀ = B.toBlocks₂₂ * B.toBlocks₁₂ᵀ
    ∧ L.toBlocks₂₁ * L.toBlocks₂₁ᵀ + L.toBlocks₂₂ * L.toBlocks₂₂ᵀ = B.toBlocks₂₂ * B.toBlocks₂₂ᵀ := by
  intro B L
  have hB0 : B.toBlocks₂₁ = 0 := by
    ext i j; simp [B, toBlocks₂₁, hA]
  have hL0 : L.toBlocks₁₂ = 0 := by
    ext i j; simp [L, toBlocks₁₂, hR]
  have hBf : fromBlocks B.toBlocks₁₁ B.toBlocks₁₂ 0 B.toBlocks₂₂ = B := by
    rw [← hB0]; exact fromBlocks_toBlocks B
  have hLf : fromBlocks L.toBlocks₁₁ 0 L.toBlocks₂₁ L.toBlocks₂₂ = L := by
    rw [← hL0]; exact fromBlocks_toBlocks L
  have hQ' : (Q.submatrix e e)ᵀ * (Q.submatrix e e) = 1 := by
    rw [transpose_submatrix, submatrix_mul_equiv, hQ, submatrix_one_equiv]
  have hBL : B = L * (Q.submatrix e e)ᵀ := by
    simp only [B, L]
    rw [transpose_submatrix, submatrix_mul_equiv, ← transpose_mul, hQR]
  exact blocks' _ _ _ (Q.submatrix e e) _ _ _ hQ' (by rw [hBf, hLf]; exact hBL)

/-- what a filter step needs of `flat` about the state block alone: with W, W⁺ the lower-right blocks of Aᵀ, Rᵀ,
    W Wᵀ − W⁺W⁺ᵀ = G Gᵀ ⪰ 0 -/
theorem cov_decrease {K : Type} [Fintype K] [DecidableEq K] (e : M ⊕ N ≃ K) (A Q R : Matrix K K ℝ)
    (hQ : Qᵀ * Q = 1) (hQR : Q * R = A)
    (hA : ∀ i j, A (e (Sum.inl j)) (e (Sum.inr i)) = 0)
    (hR : ∀ i j, R (e (Sum.inr i)) (e (Sum.inl j)) = 0) :
    ((Aᵀ.submatrix e e).toBlocks₂₂ * (Aᵀ.submatrix e e).toBlocks₂₂ᵀ
      - (Rᵀ.submatrix e e).toBlocks₂₂ * (Rᵀ.submatrix e e).toBlocks₂₂ᵀ).PosSemidef := by
  obtain ⟨_, _, d⟩ := flat e A Q R hQ hQR hA hR
  rw [← d, add_sub_cancel_right]
  exact posSemidef_self_mul_conjTranspose _

/-- supplies the `hR` of `flat` -/
theorem lowerLeft_eq_zero {m n : ℕ} (R : Matrix (Fin (m + n)) (Fin (m + n)) ℝ) (hR : ∀ a b, b < a → R a b = 0)
    (i : Fin n) (j : Fin m) : R (finSumFinEquiv (Sum.inr i)) (finSumFinEquiv (Sum.inl j)) = 0 :=
  hR _ _ (by rw [finSumFinEquiv_apply_left, finSumFinEquiv_apply_right, Fin.lt_def, Fin.val_castAdd, Fin.val_natAdd]; omega)

omit [DecidableEq M] in
/-- the conclusions of `update` from the block identities alone (those of `blocks'` with C = H W), for callers that get
    them from `flat` -/
theorem update_of_blocks (Rs : Matrix M M ℝ) (H : Matrix M N ℝ) (W : Matrix N N ℝ)
    (Ss : Matrix M M ℝ) (G : Matrix N M ℝ) (Wp : Matrix N N ℝ) (K : Matrix N M ℝ)
    (a : Ss * Ssᵀ = H * W * (H * W)ᵀ + Rs * Rsᵀ) (c : G * Ssᵀ = W * (H * W)ᵀ) (d : G * Gᵀ + Wp * Wpᵀ = W * Wᵀ)
    (hK : K * Ss = G) :
    let P := W * Wᵀ
    let S := H * P * Hᵀ + Rs * Rsᵀ
    Ss * Ssᵀ = S ∧ K * S = P * Hᵀ ∧ Wp * Wpᵀ = (1 - K * H) * P ∧ P - Wp * Wpᵀ = G * Gᵀ
      ∧ (P - Wp * Wpᵀ).PosSemidef := by
  intro P S
  have a' : Ss * Ssᵀ = S := by rw [a, transpose_mul]; simp only [S, P, Matrix.mul_assoc]
  have c' : G * Ssᵀ = P * Hᵀ := by rw [c, transpose_mul]; simp only [P, Matrix.mul_assoc]
  have hGG : G * Gᵀ = K * H * P := by
    calc G * Gᵀ = K * Ss * Gᵀ := by rw [hK]
      _ = K * (G * Ssᵀ)ᵀ := by rw [transpose_mul, transpose_transpose, Matrix.mul_assoc]
      _ = K * H * P := by
        rw [c', transpose_mul, transpose_transpose, Matrix.mul_assoc]
        simp only [P, transpose_mul, transpose_transpose]
  have e4 : P - Wp * Wpᵀ = G * Gᵀ := by
    show W * Wᵀ - Wp * Wpᵀ = G * Gᵀ
    rw [← d]; abel
  refine ⟨a', ?_, ?_, e4, ?_⟩
  · rw [← a', ← Matrix.mul_assoc, hK, c']
  · rw [Matrix.sub_mul, Matrix.one_mul, ← hGG, ← e4, sub_sub_cancel]
  · rw [e4]; exact posSemidef_self_mul_conjTranspose G

/-- `blocks'` (C = H W) in the form the filter uses: with a gain K such that K Ss = G,
    K S = P Hᵀ (so K = P Hᵀ S⁻¹ when S is invertible), W⁺W⁺ᵀ = (1 − K H) P, and P − W⁺W⁺ᵀ = G Gᵀ ⪰ 0 -/
theorem update (Rs : Matrix M M ℝ) (H : Matrix M N ℝ) (W : Matrix N N ℝ)
    (Q : Matrix (M ⊕ N) (M ⊕ N) ℝ) (Ss : Matrix M M ℝ) (G : Matrix N M ℝ) (Wp : Matrix N N ℝ) (K : Matrix N M ℝ)
    (hQ : Qᵀ * Q = 1)
    (hB : fromBlocks Rs (H * W) 0 W = fromBlocks Ss 0 G Wp * Qᵀ)
    (hK : K * Ss = G) :
    let P := W * Wᵀ
    let S := H * P * Hᵀ + Rs * Rsᵀ
    Ss * Ssᵀ = S ∧ K * S = P * Hᵀ ∧ Wp * Wpᵀ = (1 - K * H) * P ∧ P - Wp * Wpᵀ = G * Gᵀ
      ∧ (P - Wp * Wpᵀ).PosSemidef := by
  obtain ⟨a, c, d⟩ := blocks' Rs (H * W) W Q Ss G Wp hQ hB
  exact update_of_blocks Rs H W Ss G Wp K a c d hK

end SqrtFilter

/-- `block_entry [defs]`: an entry, at numeral indices, of a matrix literal, its transpose, or a block of its
    `submatrix finSumFinEquiv finSumFinEquiv`, where `defs` unfold to the literal: compute the indices and pick the entry.
    No entry program is unfolded (a `simp` that unfolds those as well works on all entries of the literal in every goal),
    and `↓` makes `simp` index before it walks through the literal. -/
macro "block_entry " "[" ls:Lean.Parser.Tactic.simpLemma,* "]" : tactic =>
  `(tactic| simp only [$ls,*, ↓Matrix.toBlocks₁₁, ↓Matrix.toBlocks₁₂, ↓Matrix.toBlocks₂₁, ↓Matrix.toBlocks₂₂, ↓Matrix.submatrix_apply,
    ↓Matrix.transpose_apply, ↓Matrix.of_apply, ↓Matrix.cons_val, finSumFinEquiv_apply_left, finSumFinEquiv_apply_right,
    Fin.zero_eta, Fin.mk_one, Fin.reduceFinMk, Fin.reduceCastAdd, Fin.reduceNatAdd, Fin.reduceLE, if_true, if_false])
