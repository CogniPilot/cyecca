/-
  Lib/Tail.lean — truncation bounds for the alternating series
      Σₖ (−u)ᵏ/(2k+m)!      (m = 0: cos √u, 1: sin √u/√u, 2: (1−cos √u)/u, 3: (√u − sin √u)/u^{3/2},
                              4: (u/2 + cos √u − 1)/u²)
  that the library's small-angle Taylor polynomials truncate.  Code-independent.
-/
import Lib.RotExp

open Nat

namespace Tail

theorem abs_aTerm_shift_le (m : ℕ) (u : ℝ) (hu : 0 ≤ u) (K k : ℕ) :
    |aTerm m u (k + K)| ≤ (u ^ K / ((2 * K + m)! : ℝ)) * u ^ k := by
  unfold aTerm
  rw [abs_div, abs_mul, abs_pow, abs_neg, abs_one, one_pow, one_mul, abs_of_nonneg (pow_nonneg hu _),
    Nat.abs_cast, pow_add, mul_comm (u ^ K / _), ← mul_div_assoc]
  exact div_le_div_of_nonneg_left (by positivity) (by positivity)
    (by exact_mod_cast Nat.factorial_le (by omega))

/-- the tail is dominated by a geometric series of ratio `u ≤ 1/2`, whence the factor 2 -/
theorem truncation_bound (m : ℕ) (u F : ℝ) (hu : 0 ≤ u) (hu2 : u ≤ 1 / 2) (h : HasSum (aTerm m u) F) (K : ℕ) :
    |F - ∑ k ∈ Finset.range K, aTerm m u k| ≤ 2 * (u ^ K / ((2 * K + m)! : ℝ)) := by
  have ht : HasSum (fun k => aTerm m u (k + K)) (F - ∑ k ∈ Finset.range K, aTerm m u k) :=
    (hasSum_nat_add_iff' K).mpr h
  have hg := (hasSum_geometric_of_lt_one hu (by linarith)).mul_left (u ^ K / ((2 * K + m)! : ℝ))
  have hb := ht.norm_le_of_bounded hg fun k => abs_aTerm_shift_le m u hu K k
  have hinv : (1 - u)⁻¹ ≤ 2 := by
    rw [inv_le_comm₀ (by linarith) (by norm_num)]; linarith
  calc |F - ∑ k ∈ Finset.range K, aTerm m u k| ≤ u ^ K / ((2 * K + m)! : ℝ) * (1 - u)⁻¹ := hb
    _ ≤ u ^ K / ((2 * K + m)! : ℝ) * 2 := mul_le_mul_of_nonneg_left hinv (by positivity)
    _ = 2 * (u ^ K / ((2 * K + m)! : ℝ)) := mul_comm _ _

/-- a polynomial whose `K` coefficients are each within `δ` of the series', against the sum of the series:
    `K δ` for the coefficients (as `u ≤ 1`) plus the truncation error -/
theorem approx_bound {K : ℕ} (m : ℕ) (c : Fin K → ℝ) {δ u F : ℝ} (hu : 0 ≤ u) (hu2 : u ≤ 1 / 2)
    (h : HasSum (aTerm m u) F) (hc : ∀ k : Fin K, |c k - (-1) ^ (k : ℕ) / ((2 * k + m)! : ℝ)| ≤ δ) :
    |∑ k : Fin K, c k * u ^ (k : ℕ) - F| ≤ K * δ + 2 * (u ^ K / ((2 * K + m)! : ℝ)) := by
  have hd : |∑ k : Fin K, c k * u ^ (k : ℕ) - ∑ k ∈ Finset.range K, aTerm m u k| ≤ K * δ := by
    rw [← Fin.sum_univ_eq_sum_range, ← Finset.sum_sub_distrib]
    refine (Finset.abs_sum_le_sum_abs _ _).trans ?_
    have hK : ∑ _k : Fin K, δ = K * δ := by rw [Fin.sum_const, nsmul_eq_mul]
    refine (Finset.sum_le_sum fun k _ => ?_).trans_eq hK
    rw [aTerm, mul_div_right_comm, ← sub_mul, abs_mul, abs_of_nonneg (pow_nonneg hu _)]
    exact (mul_le_of_le_one_right (abs_nonneg _) (pow_le_one₀ hu (by linarith))).trans (hc k)
  have ht := truncation_bound m u F hu hu2 h K
  rw [abs_sub_comm] at ht
  exact (abs_sub_le _ _ _).trans (add_le_add hd ht)

open RotExp Rot

theorem hasSum_cos_sqrt (u : ℝ) (hu : 0 ≤ u) : HasSum (aTerm 0 u) (Real.cos (Real.sqrt u)) := by
  simpa only [Real.sq_sqrt hu] using hasSum_aTerm_cos (Real.sqrt u)

theorem hasSum_cFun_sqrt (u : ℝ) (hu : 0 ≤ u) : HasSum (aTerm 2 u) (cFun (Real.sqrt u)) := by
  simpa only [Real.sq_sqrt hu] using hasSum_cTerm (Real.sqrt u)

theorem hasSum_dFun_sqrt (u : ℝ) (hu : 0 ≤ u) : HasSum (aTerm 3 u) (dFun (Real.sqrt u)) := by
  simpa only [Real.sq_sqrt hu] using hasSum_dTerm (Real.sqrt u)

theorem hasSum_sFun_sqrt (u : ℝ) (hu : 0 ≤ u) : HasSum (aTerm 1 u) (sFun (Real.sqrt u)) := by
  rw [hasSum_aTerm_iff, sFun_eq, Real.sq_sqrt hu, Nat.factorial_one, Nat.cast_one, div_one,
    sub_sub_cancel_left, ← neg_mul]
  exact (hasSum_dFun_sqrt u hu).mul_left (-u)

/-- F₄ = (1/2! − F₂)/u; the ω^² coefficient of the strap-down position integral (`RotExp.eFun`) -/
theorem hasSum_aTerm4 (u : ℝ) (hu : 0 < u) :
    HasSum (aTerm 4 u) ((u / 2 + Real.cos (Real.sqrt u) - 1) / u ^ 2) := by
  convert hasSum_aTerm_add_two hu.ne' (hasSum_cFun_sqrt u hu.le) using 1
  simp only [cFun, if_neg (Real.sqrt_pos.mpr hu).ne', Real.sq_sqrt hu.le, Nat.factorial_two]
  field_simp
  ring

end Tail
