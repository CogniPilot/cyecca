/-
  Props/C01.lean — group axioms under the matrix representation, each read off Props/Spec (what the translated
  programs are) and the group laws of Lib; ℝⁿ is the semidirect case with linear part 1.  SE(2) is computed directly on
  3×3 literals, and `identity_left/right` of the SE(3) and SE₂(3) forms evaluate the product program at the identity.

  Validity hypotheses are exactly those of the property: unit quaternion (either
  sign), MRP away from the product singularity (`mrpDen ≠ 0`), orthonormal DCM.
-/
import Props.Spec.Planar
import Props.Spec.SE3
import Props.Spec.SE23
import Mathlib.Analysis.SpecialFunctions.Trigonometric.Basic

open Gen Rot

namespace C01

namespace SO2
theorem toMatrix_product (a b : ℝ) :
    SO2.toMatrix.M_mat (SO2.product.r a b) = SO2.toMatrix.M_mat a * SO2.toMatrix.M_mat b := by
  rw [Spec.SO2_toMatrix, Spec.SO2_toMatrix, Spec.SO2_toMatrix, Spec.SO2_product, rot2_add]
theorem toMatrix_identity : SO2.toMatrix.M_mat (SO2.identity.r (α := ℝ)) = 1 := by
  rw [Spec.SO2_toMatrix, Spec.SO2_identity, rot2_zero]
theorem toMatrix_inverse_left (a : ℝ) :
    SO2.toMatrix.M_mat (SO2.inverse.r a) * SO2.toMatrix.M_mat a = 1 := by
  rw [Spec.SO2_toMatrix, Spec.SO2_toMatrix, Spec.SO2_inverse, rot2_neg_mul]
theorem toMatrix_inverse_right (a : ℝ) :
    SO2.toMatrix.M_mat a * SO2.toMatrix.M_mat (SO2.inverse.r a) = 1 :=
  mul_eq_one_comm.mp (toMatrix_inverse_left a)
theorem identity_left (a : ℝ) : SO2.product.r (SO2.identity.r) a = a := by
  rw [Spec.SO2_product, Spec.SO2_identity, zero_add]
theorem identity_right (a : ℝ) : SO2.product.r a (SO2.identity.r) = a := by
  rw [Spec.SO2_product, Spec.SO2_identity, add_zero]
theorem product_assoc (a b c : ℝ) :
    SO2.product.r (SO2.product.r a b) c = SO2.product.r a (SO2.product.r b c) := by
  rw [Spec.SO2_product, Spec.SO2_product, Spec.SO2_product, Spec.SO2_product, add_assoc]
end SO2

namespace SE2
theorem toMatrix_product (a b : Fin 3 → ℝ) :
    SE2.toMatrix.M_mat (SE2.product.r_vec a b) = SE2.toMatrix.M_mat a * SE2.toMatrix.M_mat b := by
  rw [Spec.SE2_toMatrix, Spec.SE2_toMatrix, Spec.SE2_toMatrix, Spec.SE2_product]
  simp only [se2Mat, rot2, mat_lit, Matrix.cons_val, Matrix.of_apply, Real.cos_add, Real.sin_add]
  lit_entries <;> ring
theorem toMatrix_identity : SE2.toMatrix.M_mat (SE2.identity.r_vec (α := ℝ)) = 1 := by
  rw [Spec.SE2_toMatrix, Spec.SE2_identity, Pi.zero_apply, rot2_zero, ← se2Mat_one]
  congr 1; simp
theorem toMatrix_inverse_left (a : Fin 3 → ℝ) :
    SE2.toMatrix.M_mat (SE2.inverse.r_vec a) * SE2.toMatrix.M_mat a = 1 := by
  have h := Real.sin_sq_add_cos_sq (a 2)
  rw [Spec.SE2_toMatrix, Spec.SE2_toMatrix, Spec.SE2_inverse]
  simp only [se2Mat, rot2, mat_lit, Matrix.cons_val, Matrix.of_apply, Real.cos_neg, Real.sin_neg]
  -- the entry equations are linear in sin², cos², a₀ sin², …: `linarith` closes them from sin² + cos² = 1 and its multiples
  lit_entries <;> linarith [h, congrArg (fun t => a 0 * t) h, congrArg (fun t => a 1 * t) h]
theorem toMatrix_inverse_right (a : Fin 3 → ℝ) :
    SE2.toMatrix.M_mat a * SE2.toMatrix.M_mat (SE2.inverse.r_vec a) = 1 :=
  mul_eq_one_comm.mp (toMatrix_inverse_left a)
theorem identity_left (a : Fin 3 → ℝ) : SE2.product.r_vec (SE2.identity.r_vec) a = a := by
  rw [Spec.SE2_product, Spec.SE2_identity]
  funext i; fin_cases i <;> simp
theorem identity_right (a : Fin 3 → ℝ) : SE2.product.r_vec a (SE2.identity.r_vec) = a := by
  rw [Spec.SE2_product, Spec.SE2_identity]
  funext i; fin_cases i <;> simp
theorem toMatrix_assoc (a b c : Fin 3 → ℝ) :
    SE2.toMatrix.M_mat (SE2.product.r_vec (SE2.product.r_vec a b) c)
      = SE2.toMatrix.M_mat (SE2.product.r_vec a (SE2.product.r_vec b c)) := by
  simp only [toMatrix_product, Matrix.mul_assoc]
end SE2

namespace R2
theorem toMatrix_product (a b : Fin 2 → ℝ) :
    R2.toMatrix.M_mat (R2.product.r_vec a b) = R2.toMatrix.M_mat a * R2.toMatrix.M_mat b := by
  rw [Spec.R2_toMatrix, Spec.R2_toMatrix, Spec.R2_toMatrix, Spec.R2_product, se2Mat_mul, Matrix.one_mul,
    Matrix.one_mulVec, add_comm]
theorem toMatrix_identity : R2.toMatrix.M_mat (R2.identity.r_vec (α := ℝ)) = 1 := by
  rw [Spec.R2_toMatrix, Spec.R2_identity, se2Mat_one]
theorem toMatrix_inverse_left (a : Fin 2 → ℝ) :
    R2.toMatrix.M_mat (R2.inverse.r_vec a) * R2.toMatrix.M_mat a = 1 := by
  rw [Spec.R2_toMatrix, Spec.R2_toMatrix, Spec.R2_inverse, se2Mat_mul, Matrix.one_mul, Matrix.one_mulVec,
    add_neg_cancel, se2Mat_one]
theorem toMatrix_inverse_right (a : Fin 2 → ℝ) :
    R2.toMatrix.M_mat a * R2.toMatrix.M_mat (R2.inverse.r_vec a) = 1 :=
  mul_eq_one_comm.mp (toMatrix_inverse_left a)
theorem identity_left (a : Fin 2 → ℝ) : R2.product.r_vec (R2.identity.r_vec) a = a := by
  rw [Spec.R2_product, Spec.R2_identity, zero_add]
theorem identity_right (a : Fin 2 → ℝ) : R2.product.r_vec a (R2.identity.r_vec) = a := by
  rw [Spec.R2_product, Spec.R2_identity, add_zero]
end R2

namespace R3
theorem toMatrix_product (a b : Fin 3 → ℝ) :
    R3.toMatrix.M_mat (R3.product.r_vec a b) = R3.toMatrix.M_mat a * R3.toMatrix.M_mat b := by
  rw [Spec.R3_toMatrix, Spec.R3_toMatrix, Spec.R3_toMatrix, Spec.R3_product, se3Mat_mul, Matrix.one_mul,
    Matrix.one_mulVec, add_comm]
theorem toMatrix_identity : R3.toMatrix.M_mat (R3.identity.r_vec (α := ℝ)) = 1 := by
  rw [Spec.R3_toMatrix, Spec.R3_identity, se3Mat_one]
theorem toMatrix_inverse_left (a : Fin 3 → ℝ) :
    R3.toMatrix.M_mat (R3.inverse.r_vec a) * R3.toMatrix.M_mat a = 1 := by
  rw [Spec.R3_toMatrix, Spec.R3_toMatrix, Spec.R3_inverse, se3Mat_mul, Matrix.one_mul, Matrix.one_mulVec,
    add_neg_cancel, se3Mat_one]
theorem toMatrix_inverse_right (a : Fin 3 → ℝ) :
    R3.toMatrix.M_mat a * R3.toMatrix.M_mat (R3.inverse.r_vec a) = 1 :=
  mul_eq_one_comm.mp (toMatrix_inverse_left a)
theorem identity_left (a : Fin 3 → ℝ) : R3.product.r_vec (R3.identity.r_vec) a = a := by
  rw [Spec.R3_product, Spec.R3_identity, zero_add]
theorem identity_right (a : Fin 3 → ℝ) : R3.product.r_vec a (R3.identity.r_vec) = a := by
  rw [Spec.R3_product, Spec.R3_identity, add_zero]
end R3

/-! ## SO(3), quaternion form.  Valid = unit norm, either sign. -/
namespace SO3Quat
theorem inverse_spec (a : Fin 4 → ℝ) : SO3Quat.inverse.r_vec a = qconj a := Spec.SO3Quat_inverse a
/-- holds for every pair of quaternions, unit or not -/
theorem toMatrix_product (a b : Fin 4 → ℝ) :
    SO3Quat.toMatrix.M_mat (SO3Quat.product.r_vec a b)
      = SO3Quat.toMatrix.M_mat a * SO3Quat.toMatrix.M_mat b := by
  rw [Spec.SO3Quat_toMatrix, Spec.SO3Quat_toMatrix, Spec.SO3Quat_toMatrix, Spec.SO3Quat_product, qmat_mul]
theorem product_unit (a b : Fin 4 → ℝ) (ha : qnormSq a = 1) (hb : qnormSq b = 1) :
    qnormSq (SO3Quat.product.r_vec a b) = 1 := by
  rw [Spec.SO3Quat_product, qnormSq_mul, ha, hb, mul_one]
theorem toMatrix_identity : SO3Quat.toMatrix.M_mat (SO3Quat.identity.r_vec (α := ℝ)) = 1 := by
  rw [Spec.SO3Quat_toMatrix, Spec.SO3Quat_identity, qmat_one]
theorem toMatrix_inverse_left (a : Fin 4 → ℝ) (h : qnormSq a = 1) :
    SO3Quat.toMatrix.M_mat (SO3Quat.inverse.r_vec a) * SO3Quat.toMatrix.M_mat a = 1 := by
  rw [Spec.SO3Quat_toMatrix, Spec.SO3Quat_toMatrix, Spec.SO3Quat_inverse, qmat_conj_mul, h, one_pow, one_smul]
theorem toMatrix_inverse_right (a : Fin 4 → ℝ) (h : qnormSq a = 1) :
    SO3Quat.toMatrix.M_mat a * SO3Quat.toMatrix.M_mat (SO3Quat.inverse.r_vec a) = 1 :=
  mul_eq_one_comm.mp (toMatrix_inverse_left a h)
theorem identity_left (a : Fin 4 → ℝ) : SO3Quat.product.r_vec (SO3Quat.identity.r_vec) a = a := by
  rw [Spec.SO3Quat_product, Spec.SO3Quat_identity]
  funext i; fin_cases i <;> simp [qmul]
theorem identity_right (a : Fin 4 → ℝ) : SO3Quat.product.r_vec a (SO3Quat.identity.r_vec) = a := by
  rw [Spec.SO3Quat_product, Spec.SO3Quat_identity]
  funext i; fin_cases i <;> simp [qmul]
theorem product_assoc (a b c : Fin 4 → ℝ) :
    SO3Quat.product.r_vec (SO3Quat.product.r_vec a b) c
      = SO3Quat.product.r_vec a (SO3Quat.product.r_vec b c) := by
  rw [Spec.SO3Quat_product, Spec.SO3Quat_product, Spec.SO3Quat_product, Spec.SO3Quat_product, qmul_assoc]
/-- a valid element is a proper rotation -/
theorem toMatrix_orthogonal (a : Fin 4 → ℝ) (h : qnormSq a = 1) :
    (SO3Quat.toMatrix.M_mat a).transpose * SO3Quat.toMatrix.M_mat a = 1
      ∧ (SO3Quat.toMatrix.M_mat a).det = 1 := by
  rw [Spec.SO3Quat_toMatrix]; exact qmat_orthogonal a h
example : qnormSq ![-(1/2), 1/2, -(1/2), 1/2] = 1 := by simp [qnormSq]; norm_num
end SO3Quat

/-! ## SO(3), MRP form.  Valid = away from the 360° product singularity. -/
namespace SO3Mrp
theorem toMatrix_product (a b : Fin 3 → ℝ) (h : mrpDen a b ≠ 0) :
    SO3Mrp.toMatrix.M_mat (SO3Mrp.product.r_vec a b)
      = SO3Mrp.toMatrix.M_mat a * SO3Mrp.toMatrix.M_mat b := by
  rw [Spec.SO3Mrp_toMatrix, Spec.SO3Mrp_toMatrix, Spec.SO3Mrp_toMatrix, Spec.SO3Mrp_product, mrpMat_mul a b h]
theorem toMatrix_identity : SO3Mrp.toMatrix.M_mat (SO3Mrp.identity.r_vec (α := ℝ)) = 1 := by
  rw [Spec.SO3Mrp_toMatrix, Spec.SO3Mrp_identity, mrpMat_zero]
theorem toMatrix_inverse_left (a : Fin 3 → ℝ) :
    SO3Mrp.toMatrix.M_mat (SO3Mrp.inverse.r_vec a) * SO3Mrp.toMatrix.M_mat a = 1 := by
  rw [Spec.SO3Mrp_toMatrix, Spec.SO3Mrp_toMatrix, Spec.SO3Mrp_inverse, mrpMat_neg_mul]
theorem toMatrix_inverse_right (a : Fin 3 → ℝ) :
    SO3Mrp.toMatrix.M_mat a * SO3Mrp.toMatrix.M_mat (SO3Mrp.inverse.r_vec a) = 1 :=
  mul_eq_one_comm.mp (toMatrix_inverse_left a)
theorem identity_left (a : Fin 3 → ℝ) : SO3Mrp.product.r_vec (SO3Mrp.identity.r_vec) a = a := by
  rw [Spec.SO3Mrp_product, Spec.SO3Mrp_identity]
  funext i; fin_cases i <;> simp [mrpMul, mrpNum, mrpDen, nsq, dot3, cross]
theorem identity_right (a : Fin 3 → ℝ) : SO3Mrp.product.r_vec a (SO3Mrp.identity.r_vec) = a := by
  rw [Spec.SO3Mrp_product, Spec.SO3Mrp_identity]
  funext i; fin_cases i <;> simp [mrpMul, mrpNum, mrpDen, nsq, dot3, cross]
example : mrpDen ![1/2, 0, 0] ![0, 3, 0] ≠ 0 := by simp [mrpDen, nsq, dot3]; norm_num
end SO3Mrp

/-! ## SO(3), DCM form.  Valid = orthonormal. -/
namespace SO3Dcm
theorem toMatrix_product (a b : Fin 9 → ℝ) :
    SO3Dcm.toMatrix.M_mat (SO3Dcm.product.r_vec a b)
      = SO3Dcm.toMatrix.M_mat a * SO3Dcm.toMatrix.M_mat b :=
  Spec.SO3Dcm_product a b
theorem toMatrix_identity : SO3Dcm.toMatrix.M_mat (SO3Dcm.identity.r_vec (α := ℝ)) = 1 := by
  rw [Spec.SO3Dcm_toMatrix, Spec.SO3Dcm_identity, Matrix.one_fin_three]
  simp only [Matrix.cons_val]
theorem toMatrix_inverse (a : Fin 9 → ℝ) :
    SO3Dcm.toMatrix.M_mat (SO3Dcm.inverse.r_vec a) = (SO3Dcm.toMatrix.M_mat a).transpose :=
  Spec.SO3Dcm_inverse a
theorem toMatrix_inverse_left (a : Fin 9 → ℝ)
    (h : (SO3Dcm.toMatrix.M_mat a).transpose * SO3Dcm.toMatrix.M_mat a = 1) :
    SO3Dcm.toMatrix.M_mat (SO3Dcm.inverse.r_vec a) * SO3Dcm.toMatrix.M_mat a = 1 := by
  rw [toMatrix_inverse, h]
theorem toMatrix_inverse_right (a : Fin 9 → ℝ)
    (h : (SO3Dcm.toMatrix.M_mat a).transpose * SO3Dcm.toMatrix.M_mat a = 1) :
    SO3Dcm.toMatrix.M_mat a * SO3Dcm.toMatrix.M_mat (SO3Dcm.inverse.r_vec a) = 1 := by
  rw [toMatrix_inverse]; exact mul_eq_one_comm.mp h
theorem fromMatrix_toMatrix (a : Fin 9 → ℝ) :
    SO3Dcm.fromMatrix.r_vec (fun i j => SO3Dcm.toMatrix.M_mat a i j) = a := by
  rw [Spec.SO3Dcm_fromMatrix, Spec.SO3Dcm_toMatrix]
  funext i; fin_cases i <;> rfl
/-- `to_Matrix` is injective (`from_Matrix` inverts it), so the identity laws can be read off the matrices -/
theorem identity_left (a : Fin 9 → ℝ) : SO3Dcm.product.r_vec (SO3Dcm.identity.r_vec) a = a := by
  rw [← fromMatrix_toMatrix (SO3Dcm.product.r_vec _ a), toMatrix_product, toMatrix_identity, Matrix.one_mul,
    fromMatrix_toMatrix]
theorem identity_right (a : Fin 9 → ℝ) : SO3Dcm.product.r_vec a (SO3Dcm.identity.r_vec) = a := by
  rw [← fromMatrix_toMatrix (SO3Dcm.product.r_vec a _), toMatrix_product, toMatrix_identity, Matrix.mul_one,
    fromMatrix_toMatrix]
end SO3Dcm

/-! ## from_Matrix on SO(2): same element back for θ in (-π, π]; on SO(2), SE(2): same matrix for every angle -/

theorem atan2_sin_cos (a : ℝ) : CasReal.atan2 (Real.sin a) (Real.cos a) = Complex.arg (Complex.exp (a * Complex.I)) := by
  rw [CasReal.atan2]; congr 1
  apply Complex.ext <;> simp [Complex.exp_ofReal_mul_I_re, Complex.exp_ofReal_mul_I_im]

theorem rot2_atan2 (a : ℝ) : rot2 (CasReal.atan2 (Real.sin a) (Real.cos a)) = rot2 a := by
  have hn : ‖Complex.exp (a * Complex.I)‖ = 1 := Complex.norm_exp_ofReal_mul_I _
  rw [atan2_sin_cos, rot2, Complex.cos_arg (Complex.exp_ne_zero _), Complex.sin_arg, hn, Complex.exp_ofReal_mul_I_re,
    Complex.exp_ofReal_mul_I_im, div_one, div_one, rot2]

namespace SO2
theorem fromMatrix_toMatrix (a : ℝ) (h1 : -Real.pi < a) (h2 : a ≤ Real.pi) :
    SO2.fromMatrix.r (fun i j => SO2.toMatrix.M_mat a i j) = a := by
  rw [Spec.SO2_fromMatrix, Spec.SO2_toMatrix]
  simp only [rot2, Matrix.of_apply, Matrix.cons_val]
  rw [atan2_sin_cos, Complex.arg_exp_mul_I, toIocMod_eq_self]
  constructor <;> [linarith; (have := Real.pi_pos; linarith)]
/-- for every angle the returned element has the same matrix -/
theorem toMatrix_fromMatrix_toMatrix (a : ℝ) :
    SO2.toMatrix.M_mat (SO2.fromMatrix.r (fun i j => SO2.toMatrix.M_mat a i j)) = SO2.toMatrix.M_mat a := by
  rw [Spec.SO2_fromMatrix, Spec.SO2_toMatrix, Spec.SO2_toMatrix]
  simp only [rot2, Matrix.of_apply, Matrix.cons_val]
  exact rot2_atan2 a
end SO2

namespace SE2
theorem toMatrix_fromMatrix_toMatrix (a : Fin 3 → ℝ) :
    SE2.toMatrix.M_mat (SE2.fromMatrix.r_vec (fun i j => SE2.toMatrix.M_mat a i j)) = SE2.toMatrix.M_mat a := by
  have e : rot2 (CasReal.atan2 (rot2 (a 2) 1 0) (rot2 (a 2) 0 0)) = rot2 (a 2) := rot2_atan2 (a 2)
  rw [Spec.SE2_fromMatrix, Spec.SE2_toMatrix, Spec.SE2_toMatrix]
  simp only [se2Mat, Matrix.of_apply, Matrix.cons_val, e]
end SE2

namespace SE3Quat
def rot (a : Fin 7 → ℝ) : Fin 4 → ℝ := ![a 3, a 4, a 5, a 6]
/-- holds for every pair (unit or not) -/
theorem toMatrix_product (a b : Fin 7 → ℝ) :
    SE3Quat.toMatrix.M_mat (SE3Quat.product.r_vec a b)
      = SE3Quat.toMatrix.M_mat a * SE3Quat.toMatrix.M_mat b := by
  rw [Spec.SE3Quat_toMatrix, Spec.SE3Quat_toMatrix, Spec.SE3Quat_toMatrix, se3Mat_mul, Spec.SE3Quat_product_rot,
    Spec.SE3Quat_product_tr, qmat_mul]
theorem toMatrix_identity : SE3Quat.toMatrix.M_mat (SE3Quat.identity.r_vec (α := ℝ)) = 1 := by
  rw [Spec.SE3Quat_toMatrix, Spec.SE3Quat_identity, ← se3Mat_one, ← qmat_one]
  congr 1; simp
theorem toMatrix_inverse_left (a : Fin 7 → ℝ) (h : qnormSq (rot a) = 1) :
    SE3Quat.toMatrix.M_mat (SE3Quat.inverse.r_vec a) * SE3Quat.toMatrix.M_mat a = 1 := by
  rw [Spec.SE3Quat_toMatrix, Spec.SE3Quat_toMatrix, Spec.SE3Quat_inverse_rot, Spec.SE3Quat_inverse_tr,
    ← qmat_transpose]
  exact se3Mat_inv_mul (qmat_orthogonal _ h).1 _
theorem toMatrix_inverse_right (a : Fin 7 → ℝ) (h : qnormSq (rot a) = 1) :
    SE3Quat.toMatrix.M_mat a * SE3Quat.toMatrix.M_mat (SE3Quat.inverse.r_vec a) = 1 :=
  mul_eq_one_comm.mp (toMatrix_inverse_left a h)
theorem identity_left (a : Fin 7 → ℝ) : SE3Quat.product.r_vec (SE3Quat.identity.r_vec) a = a := by
  -- the first `simp` picks the entry out of the result vector, so that the second unfolds one entry program, not all
  funext i; fin_cases i <;> simp [SE3Quat.product.r_vec] <;> simp [cas_defs, cas_real]
theorem identity_right (a : Fin 7 → ℝ) : SE3Quat.product.r_vec a (SE3Quat.identity.r_vec) = a := by
  funext i; fin_cases i <;> simp [SE3Quat.product.r_vec] <;> simp [cas_defs, cas_real]
theorem ext_parts {u v : Fin 7 → ℝ} (htr : ![u 0, u 1, u 2] = ![v 0, v 1, v 2])
    (hrot : ![u 3, u 4, u 5, u 6] = ![v 3, v 4, v 5, v 6]) : u = v := by
  funext i; fin_cases i
  exacts [congrFun htr 0, congrFun htr 1, congrFun htr 2, congrFun hrot 0, congrFun hrot 1, congrFun hrot 2,
    congrFun hrot 3]
/-- the semidirect product is associative because `qmul` is and `qmat` is multiplicative -/
theorem product_assoc (a b c : Fin 7 → ℝ) :
    SE3Quat.product.r_vec (SE3Quat.product.r_vec a b) c
      = SE3Quat.product.r_vec a (SE3Quat.product.r_vec b c) := by
  apply ext_parts
  · rw [Spec.SE3Quat_product_tr, Spec.SE3Quat_product_tr a, Spec.SE3Quat_product_rot, Spec.SE3Quat_product_tr,
      Spec.SE3Quat_product_tr, qmat_mul, Matrix.mulVec_add, Matrix.mulVec_mulVec, add_assoc]
  · rw [Spec.SE3Quat_product_rot, Spec.SE3Quat_product_rot a, Spec.SE3Quat_product_rot, Spec.SE3Quat_product_rot,
      qmul_assoc]
end SE3Quat

namespace SE3Mrp
def rot (a : Fin 6 → ℝ) : Fin 3 → ℝ := ![a 3, a 4, a 5]
theorem toMatrix_product (a b : Fin 6 → ℝ) (h : mrpDen (rot a) (rot b) ≠ 0) :
    SE3Mrp.toMatrix.M_mat (SE3Mrp.product.r_vec a b)
      = SE3Mrp.toMatrix.M_mat a * SE3Mrp.toMatrix.M_mat b := by
  rw [Spec.SE3Mrp_toMatrix, Spec.SE3Mrp_toMatrix, Spec.SE3Mrp_toMatrix, se3Mat_mul, Spec.SE3Mrp_product_rot,
    Spec.SE3Mrp_product_tr, mrpMat_mul ![a 3, a 4, a 5] ![b 3, b 4, b 5] h]
theorem toMatrix_identity : SE3Mrp.toMatrix.M_mat (SE3Mrp.identity.r_vec (α := ℝ)) = 1 := by
  rw [Spec.SE3Mrp_toMatrix, Spec.SE3Mrp_identity, ← se3Mat_one, ← mrpMat_zero]
  congr 1; simp
theorem toMatrix_inverse_left (a : Fin 6 → ℝ) :
    SE3Mrp.toMatrix.M_mat (SE3Mrp.inverse.r_vec a) * SE3Mrp.toMatrix.M_mat a = 1 := by
  rw [Spec.SE3Mrp_toMatrix, Spec.SE3Mrp_toMatrix, Spec.SE3Mrp_inverse_rot, Spec.SE3Mrp_inverse_tr,
    ← mrpMat_transpose]
  exact se3Mat_inv_mul (mrpMat_orthogonal _).1 _
theorem toMatrix_inverse_right (a : Fin 6 → ℝ) :
    SE3Mrp.toMatrix.M_mat a * SE3Mrp.toMatrix.M_mat (SE3Mrp.inverse.r_vec a) = 1 :=
  mul_eq_one_comm.mp (toMatrix_inverse_left a)
theorem identity_left (a : Fin 6 → ℝ) : SE3Mrp.product.r_vec (SE3Mrp.identity.r_vec) a = a := by
  funext i; fin_cases i <;> simp [SE3Mrp.product.r_vec] <;> simp [cas_defs, cas_real]
theorem identity_right (a : Fin 6 → ℝ) : SE3Mrp.product.r_vec a (SE3Mrp.identity.r_vec) = a := by
  funext i; fin_cases i <;> simp [SE3Mrp.product.r_vec] <;> simp [cas_defs, cas_real]
end SE3Mrp

namespace SE23Quat
def rot (a : Fin 10 → ℝ) : Fin 4 → ℝ := ![a 6, a 7, a 8, a 9]
/-- holds for every pair (unit or not) -/
theorem toMatrix_product (a b : Fin 10 → ℝ) :
    SE23Quat.toMatrix.M_mat (SE23Quat.product.r_vec a b)
      = SE23Quat.toMatrix.M_mat a * SE23Quat.toMatrix.M_mat b := by
  rw [Spec.SE23Quat_toMatrix, Spec.SE23Quat_toMatrix, Spec.SE23Quat_toMatrix, se23Mat_mul, Spec.SE23Quat_product_rot,
    Spec.SE23Quat_product_vel, Spec.SE23Quat_product_pos, qmat_mul, add_comm ![a 3, a 4, a 5], add_comm ![a 0, a 1, a 2]]
theorem toMatrix_identity : SE23Quat.toMatrix.M_mat (SE23Quat.identity.r_vec (α := ℝ)) = 1 := by
  rw [Spec.SE23Quat_toMatrix, Spec.SE23Quat_identity, ← se23Mat_one, ← qmat_one]
  congr 1 <;> simp
theorem toMatrix_inverse_left (a : Fin 10 → ℝ) (h : qnormSq (rot a) = 1) :
    SE23Quat.toMatrix.M_mat (SE23Quat.inverse.r_vec a) * SE23Quat.toMatrix.M_mat a = 1 := by
  rw [Spec.SE23Quat_toMatrix, Spec.SE23Quat_toMatrix, Spec.SE23Quat_inverse_rot, Spec.SE23Quat_inverse_vel,
    Spec.SE23Quat_inverse_pos, ← qmat_transpose]
  exact se23Mat_inv_mul (qmat_orthogonal _ h).1 _ _
theorem toMatrix_inverse_right (a : Fin 10 → ℝ) (h : qnormSq (rot a) = 1) :
    SE23Quat.toMatrix.M_mat a * SE23Quat.toMatrix.M_mat (SE23Quat.inverse.r_vec a) = 1 :=
  mul_eq_one_comm.mp (toMatrix_inverse_left a h)
theorem identity_left (a : Fin 10 → ℝ) : SE23Quat.product.r_vec (SE23Quat.identity.r_vec) a = a := by
  funext i; fin_cases i <;> simp [SE23Quat.product.r_vec] <;> simp [cas_defs, cas_real]
theorem identity_right (a : Fin 10 → ℝ) : SE23Quat.product.r_vec a (SE23Quat.identity.r_vec) = a := by
  funext i; fin_cases i <;> simp [SE23Quat.product.r_vec] <;> simp [cas_defs, cas_real]
end SE23Quat

namespace SE23Mrp
def rot (a : Fin 9 → ℝ) : Fin 3 → ℝ := ![a 6, a 7, a 8]
theorem toMatrix_product (a b : Fin 9 → ℝ) (h : mrpDen (rot a) (rot b) ≠ 0) :
    SE23Mrp.toMatrix.M_mat (SE23Mrp.product.r_vec a b)
      = SE23Mrp.toMatrix.M_mat a * SE23Mrp.toMatrix.M_mat b := by
  rw [Spec.SE23Mrp_toMatrix, Spec.SE23Mrp_toMatrix, Spec.SE23Mrp_toMatrix, se23Mat_mul, Spec.SE23Mrp_product_rot,
    Spec.SE23Mrp_product_vel, Spec.SE23Mrp_product_pos, mrpMat_mul ![a 6, a 7, a 8] ![b 6, b 7, b 8] h,
    add_comm ![a 3, a 4, a 5], add_comm ![a 0, a 1, a 2]]
theorem toMatrix_identity : SE23Mrp.toMatrix.M_mat (SE23Mrp.identity.r_vec (α := ℝ)) = 1 := by
  rw [Spec.SE23Mrp_toMatrix, Spec.SE23Mrp_identity, ← se23Mat_one, ← mrpMat_zero]
  congr 1 <;> simp
theorem toMatrix_inverse_left (a : Fin 9 → ℝ) :
    SE23Mrp.toMatrix.M_mat (SE23Mrp.inverse.r_vec a) * SE23Mrp.toMatrix.M_mat a = 1 := by
  rw [Spec.SE23Mrp_toMatrix, Spec.SE23Mrp_toMatrix, Spec.SE23Mrp_inverse_rot, Spec.SE23Mrp_inverse_vel,
    Spec.SE23Mrp_inverse_pos, ← mrpMat_transpose]
  exact se23Mat_inv_mul (mrpMat_orthogonal _).1 _ _
theorem toMatrix_inverse_right (a : Fin 9 → ℝ) :
    SE23Mrp.toMatrix.M_mat a * SE23Mrp.toMatrix.M_mat (SE23Mrp.inverse.r_vec a) = 1 :=
  mul_eq_one_comm.mp (toMatrix_inverse_left a)
theorem identity_left (a : Fin 9 → ℝ) : SE23Mrp.product.r_vec (SE23Mrp.identity.r_vec) a = a := by
  funext i; fin_cases i <;> simp [SE23Mrp.product.r_vec] <;> simp [cas_defs, cas_real]
theorem identity_right (a : Fin 9 → ℝ) : SE23Mrp.product.r_vec a (SE23Mrp.identity.r_vec) = a := by
  funext i; fin_cases i <;> simp [SE23Mrp.product.r_vec] <;> simp [cas_defs, cas_real]
end SE23Mrp

end C01
