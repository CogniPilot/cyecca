/-
  Props/C01P.lean — C01 for direct products built with `*` (translated instances).
  `P_MrpR3` = SO3Mrp × R3 (the attitude estimator's state group), `P_SO2R2` = SO2 × R2,
  `P_SE3QuatR3_Dcm` = (SE3Quat × R3) × SO3Dcm, `P_SE3Quat_R3Dcm` = SE3Quat × (R3 × SO3Dcm).

  cyecca/lie/direct_product.py builds every operation of a product from the factors' own: `to_Matrix` is the `diagcat`
  of the factors' matrices, `product` / `inverse` / `identity` are the factors' on the slices of the parameter vector.
  The translated programs say the same (`toMatrix_blocks`, `product_*`: both sides unfold to one literal), and each law
  is then the block-diagonal law (`diagMat_mul`, `diagMat_one` of Lib/BlockDiag) over the factors' laws of Props/C01.
-/
import GenM.Products
import Lib.BlockDiag
import Props.C01

open Gen Rot

namespace C01P

namespace P_SO2R2
theorem toMatrix_blocks (a : Fin 3 → ℝ) :
    P_SO2R2.toMatrix.M_mat a = diagMat (SO2.toMatrix.M_mat (a 0)) (R2.toMatrix.M_mat ![a 1, a 2]) := by
  rw [diagMat_lit23]
  simp only [cas_defs, cas_real, Matrix.cons_val, Matrix.of_apply]
theorem product_so2 (a b : Fin 3 → ℝ) : P_SO2R2.product.r_vec a b 0 = SO2.product.r (a 0) (b 0) := by
  simp only [cas_defs, cas_real, Matrix.cons_val]
theorem product_r2 (a b : Fin 3 → ℝ) :
    ![P_SO2R2.product.r_vec a b 1, P_SO2R2.product.r_vec a b 2] = R2.product.r_vec ![a 1, a 2] ![b 1, b 2] := by
  simp only [cas_defs, cas_real, Matrix.cons_val]
theorem toMatrix_product (a b : Fin 3 → ℝ) :
    P_SO2R2.toMatrix.M_mat (P_SO2R2.product.r_vec a b)
      = P_SO2R2.toMatrix.M_mat a * P_SO2R2.toMatrix.M_mat b := by
  rw [toMatrix_blocks, toMatrix_blocks, toMatrix_blocks, diagMat_mul, product_so2, product_r2,
    C01.SO2.toMatrix_product, C01.R2.toMatrix_product]
theorem toMatrix_identity : P_SO2R2.toMatrix.M_mat (P_SO2R2.identity.r_vec (α := ℝ)) = 1 := by
  have h : P_SO2R2.identity.r_vec (α := ℝ) 0 = SO2.identity.r
      ∧ ![P_SO2R2.identity.r_vec (α := ℝ) 1, P_SO2R2.identity.r_vec 2] = R2.identity.r_vec := by
    simp only [cas_defs, cas_real, Matrix.cons_val, and_self]
  rw [toMatrix_blocks, h.1, h.2, C01.SO2.toMatrix_identity, C01.R2.toMatrix_identity, diagMat_one]
theorem toMatrix_inverse_left (a : Fin 3 → ℝ) :
    P_SO2R2.toMatrix.M_mat (P_SO2R2.inverse.r_vec a) * P_SO2R2.toMatrix.M_mat a = 1 := by
  have h : P_SO2R2.inverse.r_vec a 0 = SO2.inverse.r (a 0)
      ∧ ![P_SO2R2.inverse.r_vec a 1, P_SO2R2.inverse.r_vec a 2] = R2.inverse.r_vec ![a 1, a 2] := by
    simp only [cas_defs, cas_real, Matrix.cons_val, and_self]
  rw [toMatrix_blocks, toMatrix_blocks, diagMat_mul, h.1, h.2, C01.SO2.toMatrix_inverse_left,
    C01.R2.toMatrix_inverse_left, diagMat_one]
theorem identity_left (a : Fin 3 → ℝ) : P_SO2R2.product.r_vec (P_SO2R2.identity.r_vec) a = a := by
  funext i; fin_cases i <;> simp [cas_defs, cas_real]
theorem identity_right (a : Fin 3 → ℝ) : P_SO2R2.product.r_vec a (P_SO2R2.identity.r_vec) = a := by
  funext i; fin_cases i <;> simp [cas_defs, cas_real]
end P_SO2R2

namespace P_SE3QuatR3_Dcm
def se3 (a : Fin 19 → ℝ) : Fin 7 → ℝ := ![a 0, a 1, a 2, a 3, a 4, a 5, a 6]
def r3 (a : Fin 19 → ℝ) : Fin 3 → ℝ := ![a 7, a 8, a 9]
def dcm (a : Fin 19 → ℝ) : Fin 9 → ℝ := ![a 10, a 11, a 12, a 13, a 14, a 15, a 16, a 17, a 18]

theorem toMatrix_blocks (a : Fin 19 → ℝ) :
    P_SE3QuatR3_Dcm.toMatrix.M_mat a
      = diagMat (diagMat (SE3Quat.toMatrix.M_mat (se3 a)) (R3.toMatrix.M_mat (r3 a))) (SO3Dcm.toMatrix.M_mat (dcm a)) := by
  rw [diagMat_lit443]
  simp only [cas_defs, cas_real, se3, r3, dcm, Matrix.cons_val, Matrix.of_apply]
theorem product_se3 (a b : Fin 19 → ℝ) :
    se3 (P_SE3QuatR3_Dcm.product.r_vec a b) = SE3Quat.product.r_vec (se3 a) (se3 b) := by
  simp only [cas_defs, cas_real, se3, Matrix.cons_val]
theorem product_r3 (a b : Fin 19 → ℝ) :
    r3 (P_SE3QuatR3_Dcm.product.r_vec a b) = R3.product.r_vec (r3 a) (r3 b) := by
  simp only [cas_defs, cas_real, r3, Matrix.cons_val]
theorem product_dcm (a b : Fin 19 → ℝ) :
    dcm (P_SE3QuatR3_Dcm.product.r_vec a b) = SO3Dcm.product.r_vec (dcm a) (dcm b) := by
  simp only [cas_defs, cas_real, dcm, Matrix.cons_val]

/-- for every pair of parameter vectors (validity not even needed) -/
theorem toMatrix_product (a b : Fin 19 → ℝ) :
    P_SE3QuatR3_Dcm.toMatrix.M_mat (P_SE3QuatR3_Dcm.product.r_vec a b)
      = P_SE3QuatR3_Dcm.toMatrix.M_mat a * P_SE3QuatR3_Dcm.toMatrix.M_mat b := by
  rw [toMatrix_blocks, toMatrix_blocks, toMatrix_blocks, diagMat_mul, diagMat_mul, product_se3, product_r3, product_dcm,
    C01.SE3Quat.toMatrix_product, C01.R3.toMatrix_product, C01.SO3Dcm.toMatrix_product]
theorem toMatrix_identity :
    P_SE3QuatR3_Dcm.toMatrix.M_mat (P_SE3QuatR3_Dcm.identity.r_vec (α := ℝ)) = 1 := by
  have h : se3 P_SE3QuatR3_Dcm.identity.r_vec = SE3Quat.identity.r_vec
      ∧ r3 P_SE3QuatR3_Dcm.identity.r_vec = R3.identity.r_vec
      ∧ dcm P_SE3QuatR3_Dcm.identity.r_vec = SO3Dcm.identity.r_vec := by
    simp only [cas_defs, cas_real, se3, r3, dcm, Matrix.cons_val, and_self]
  rw [toMatrix_blocks, h.1, h.2.1, h.2.2, C01.SE3Quat.toMatrix_identity, C01.R3.toMatrix_identity,
    C01.SO3Dcm.toMatrix_identity, diagMat_one, diagMat_one]
theorem identity_left (a : Fin 19 → ℝ) :
    P_SE3QuatR3_Dcm.product.r_vec (P_SE3QuatR3_Dcm.identity.r_vec) a = a := by
  funext i
  -- index the literal first: otherwise `simp` unfolds all 19 entry programs in each of the 19 goals
  fin_cases i <;> simp only [P_SE3QuatR3_Dcm.product.r_vec, Fin.reduceFinMk, Matrix.cons_val] <;> simp [cas_defs, cas_real]
theorem identity_right (a : Fin 19 → ℝ) :
    P_SE3QuatR3_Dcm.product.r_vec a (P_SE3QuatR3_Dcm.identity.r_vec) = a := by
  funext i
  fin_cases i <;> simp only [P_SE3QuatR3_Dcm.product.r_vec, Fin.reduceFinMk, Matrix.cons_val] <;> simp [cas_defs, cas_real]
/-- nesting of `*` does not matter: (A×B)×C and A×(B×C) are the same group -/
theorem nesting_product (a b : Fin 19 → ℝ) :
    P_SE3Quat_R3Dcm.product.r_vec a b = P_SE3QuatR3_Dcm.product.r_vec a b := by
  simp only [cas_defs, cas_real]
theorem nesting_inverse (a : Fin 19 → ℝ) :
    P_SE3Quat_R3Dcm.inverse.r_vec a = P_SE3QuatR3_Dcm.inverse.r_vec a := by
  simp only [cas_defs, cas_real]
theorem nesting_identity :
    P_SE3Quat_R3Dcm.identity.r_vec (α := ℝ) = P_SE3QuatR3_Dcm.identity.r_vec := by
  simp only [cas_defs, cas_real]
theorem nesting_toMatrix (a : Fin 19 → ℝ) :
    P_SE3Quat_R3Dcm.toMatrix.M_mat a = P_SE3QuatR3_Dcm.toMatrix.M_mat a := by
  simp only [cas_defs, cas_real]
end P_SE3QuatR3_Dcm

namespace P_MrpR3
def rot (a : Fin 6 → ℝ) : Fin 3 → ℝ := ![a 0, a 1, a 2]
def tr (a : Fin 6 → ℝ) : Fin 3 → ℝ := ![a 3, a 4, a 5]
theorem toMatrix_blocks (a : Fin 6 → ℝ) :
    P_MrpR3.toMatrix.M_mat a = diag34 (SO3Mrp.toMatrix.M_mat (rot a)) (R3.toMatrix.M_mat (tr a)) := by
  simp only [cas_defs, cas_real, diag34, rot, tr, Matrix.cons_val, Matrix.of_apply]
theorem product_rot (a b : Fin 6 → ℝ) :
    rot (P_MrpR3.product.r_vec a b) = SO3Mrp.product.r_vec (rot a) (rot b) := by
  simp only [cas_defs, cas_real, rot, Matrix.cons_val]
theorem product_tr (a b : Fin 6 → ℝ) :
    tr (P_MrpR3.product.r_vec a b) = R3.product.r_vec (tr a) (tr b) := by
  simp only [cas_defs, cas_real, tr, Matrix.cons_val]
theorem toMatrix_product (a b : Fin 6 → ℝ) (h : mrpDen (rot a) (rot b) ≠ 0) :
    P_MrpR3.toMatrix.M_mat (P_MrpR3.product.r_vec a b)
      = P_MrpR3.toMatrix.M_mat a * P_MrpR3.toMatrix.M_mat b := by
  rw [toMatrix_blocks, toMatrix_blocks, toMatrix_blocks, diag34_mul, product_rot, product_tr,
    C01.SO3Mrp.toMatrix_product _ _ h, C01.R3.toMatrix_product]
theorem toMatrix_identity : P_MrpR3.toMatrix.M_mat (P_MrpR3.identity.r_vec (α := ℝ)) = 1 := by
  have h : rot P_MrpR3.identity.r_vec = SO3Mrp.identity.r_vec ∧ tr P_MrpR3.identity.r_vec = R3.identity.r_vec := by
    simp only [cas_defs, cas_real, rot, tr, Matrix.cons_val, and_self]
  rw [toMatrix_blocks, h.1, h.2, C01.SO3Mrp.toMatrix_identity, C01.R3.toMatrix_identity, diag34_one]
theorem identity_left (a : Fin 6 → ℝ) : P_MrpR3.product.r_vec (P_MrpR3.identity.r_vec) a = a := by
  funext i
  fin_cases i <;> simp only [P_MrpR3.product.r_vec, Fin.reduceFinMk, Matrix.cons_val] <;> simp [cas_defs, cas_real]
theorem identity_right (a : Fin 6 → ℝ) : P_MrpR3.product.r_vec a (P_MrpR3.identity.r_vec) = a := by
  funext i
  fin_cases i <;> simp only [P_MrpR3.product.r_vec, Fin.reduceFinMk, Matrix.cons_val] <;> simp [cas_defs, cas_real]
end P_MrpR3

end C01P
