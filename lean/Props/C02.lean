/-
  Props/C02.lean — the group exponential is the matrix exponential of the algebra element.

  For each group: (i) a *core* identity, valid for every input, expressing M(exp x) through the
  series coefficient values the code consumes (calls to `Gen.SqSeries.*` stay calls);
  (ii) on the closed-form cell of those coefficients (argument ≥ the switch `eps` ≈ 1e-3) and at
  exactly zero rotation: M(exp x) = `NormedSpace.exp` (hat x), with no bound on the angle.
  Taylor cells (0 < θ² < eps) are not covered here; C06 has the truncation bounds of the coefficients and the
  consequence for one consumer (`C06.SO3Dcm_exp_taylor_cell`).
  The core identities are read off Props/Spec (SE(3): rotation part by the SO(3) factor's own exp program,
  translation part by so(3)'s `left_jacobian` program), but for the MRP exponential, which is unfolded here
  (`SO3Mrp_exp_spec`); the closed forms are those of Lib/ExpForms.
-/
import Props.Spec.Planar
import Props.Spec.SE3
import Lib.ExpForms
import Props.SeriesLemmas

open Gen Rot RotExp NormedSpace SeriesLemmas

namespace C02

/-- θ² as the code computes it -/
def usq (x : Fin 3 → ℝ) : ℝ := x 0 * x 0 + x 1 * x 1 + x 2 * x 2
theorem usq_eq (x : Fin 3 → ℝ) : usq x = nsq x := mul_self_eq_nsq x

theorem SO3Dcm_exp_core (x : Fin 3 → ℝ) :
    SO3Dcm.toMatrix.M_mat (SO3Dcm.exp.r_vec x)
      = 1 + SqSeries.sin_x_over_x (usq x) • hat x + SqSeries.one_minus_cos_over_x2 (usq x) • hat x ^ 2 :=
  Spec.SO3Dcm_exp x

/-- exact for every rotation angle on the closed-form cell (θ² ≥ eps; no upper bound) -/
theorem SO3Dcm_exp (x : Fin 3 → ℝ) (h : eps ≤ usq x) :
    SO3Dcm.toMatrix.M_mat (SO3Dcm.exp.r_vec x) = exp (so3.toMatrix.M_mat x) := by
  rw [SO3Dcm_exp_core, Spec.so3_toMatrix, exp_hat, sq_sin_x_over_x_closed h, sq_one_minus_cos_over_x2_closed h, usq_eq]

/-- exact at zero rotation -/
theorem SO3Dcm_exp_zero : SO3Dcm.toMatrix.M_mat (SO3Dcm.exp.r_vec (0 : Fin 3 → ℝ)) = exp (so3.toMatrix.M_mat 0) := by
  rw [SO3Dcm_exp_core, Spec.so3_toMatrix, hat_zero, smul_zero, zero_pow two_ne_zero, smul_zero, add_zero, add_zero,
    NormedSpace.exp_zero]

theorem SO3Quat_exp_spec (x : Fin 3 → ℝ) :
    SO3Quat.exp.r_vec x = ![SqSeries.cos_x (usq x / 4), SqSeries.sin_x_over_x (usq x / 4) / 2 * x 0,
      SqSeries.sin_x_over_x (usq x / 4) / 2 * x 1, SqSeries.sin_x_over_x (usq x / 4) / 2 * x 2] :=
  Spec.SO3Quat_exp x

theorem SO3Quat_exp_closed (x : Fin 3 → ℝ) (h : eps ≤ usq x / 4) : SO3Quat.exp.r_vec x = qexp x := by
  rw [SO3Quat_exp_spec, sq_cos_x_closed h, sq_sin_x_over_x_closed h, sqrt_quarter, usq_eq]
  rfl

/-- on the closed-form cell of the half-angle series (θ² ≥ 4 eps) the quaternion is exactly
    (cos θ/2, sin(θ/2)/θ · ω): unit norm and `R(q) = exp(ω^)`, for every angle (beyond π too) -/
theorem SO3Quat_exp (x : Fin 3 → ℝ) (h : eps ≤ usq x / 4) :
    qnormSq (SO3Quat.exp.r_vec x) = 1
      ∧ SO3Quat.toMatrix.M_mat (SO3Quat.exp.r_vec x) = exp (so3.toMatrix.M_mat x) := by
  rw [Spec.SO3Quat_toMatrix, SO3Quat_exp_closed x h, Spec.so3_toMatrix]
  exact ⟨qnormSq_qexp x, qmat_qexp x⟩

theorem SO3Quat_exp_zero : SO3Quat.exp.r_vec (0 : Fin 3 → ℝ) = ![1, 0, 0, 0] := by
  rw [SO3Quat_exp_spec]
  simp [usq, sq_cos_x_zero]

theorem SO2_exp (x : ℝ) : SO2.toMatrix.M_mat (SO2.exp.r x) = exp (so2.toMatrix.M_mat x) := by
  rw [Spec.so2_toMatrix, exp_so2Hat, Spec.SO2_toMatrix, Spec.SO2_exp, rot2]

theorem SE2_exp_core (x : Fin 3 → ℝ) :
    SE2.toMatrix.M_mat (SE2.exp.r_vec x)
      = se2Mat !![Real.cos (x 2), -Real.sin (x 2); Real.sin (x 2), Real.cos (x 2)]
          ![Series.sin_x_over_x (x 2) * x 0 - Series.one_minus_cos_over_x (x 2) * x 1,
            Series.one_minus_cos_over_x (x 2) * x 0 + Series.sin_x_over_x (x 2) * x 1] := by
  rw [Spec.SE2_toMatrix, Spec.SE2_exp, rot2]
  simp only [Matrix.cons_val]

theorem SE2_exp (x : Fin 3 → ℝ) (h : eps ≤ |x 2|) :
    SE2.toMatrix.M_mat (SE2.exp.r_vec x) = exp (se2.toMatrix.M_mat x) := by
  rw [SE2_exp_core, Spec.se2_toMatrix, exp_se2Hat, sin_x_over_x_closed h, one_minus_cos_over_x_closed h]

theorem SE2_exp_zero (x : Fin 3 → ℝ) (h : x 2 = 0) :
    SE2.toMatrix.M_mat (SE2.exp.r_vec x) = exp (se2.toMatrix.M_mat x) := by
  rw [SE2_exp_core, Spec.se2_toMatrix, exp_se2Hat, h, sin_x_over_x_zero, one_minus_cos_over_x_zero]
  simp [sFun, cFun]

/-! ## ℝ² and ℝ³: the affine group with linear part 1, W = 0 in `exp_affHat` -/

theorem R3_exp (x : Fin 3 → ℝ) : R3.toMatrix.M_mat (R3.exp.r_vec x) = exp (r3.toMatrix.M_mat x) := by
  rw [Spec.R3_toMatrix, Spec.R3_exp, Spec.r3_toMatrix, se3Hat_eq, hat_zero, exp_affHat_zero, se3Mat_eq]
theorem R2_exp (x : Fin 2 → ℝ) : R2.toMatrix.M_mat (R2.exp.r_vec x) = exp (r2.toMatrix.M_mat x) := by
  have e : ![x 0, x 1] = x := by funext i; fin_cases i <;> rfl
  rw [Spec.R2_toMatrix, Spec.R2_exp, Spec.r2_toMatrix, se2Hat_eq, so2Hat_zero, exp_affHat_zero, se2Mat_eq, e]

theorem SO3Mrp_toMatrix_spec (r : Fin 3 → ℝ) : SO3Mrp.toMatrix.M_mat r = mrpMat r := Spec.SO3Mrp_toMatrix r

/-- the code: scale by the quarter-angle coefficient, then switch to the shadow set if needed -/
theorem SO3Mrp_exp_spec (x : Fin 3 → ℝ) :
    SO3Mrp.exp.r_vec x =
      (if 1 < nsq (fun i => SqSeries.tan_quarter_over_x (usq x) * x i)
        then (fun i => -(SqSeries.tan_quarter_over_x (usq x) * x i
                / nsq (fun i => SqSeries.tan_quarter_over_x (usq x) * x i)))
        else (fun i => SqSeries.tan_quarter_over_x (usq x) * x i)) := by
  have e : ∀ τ : ℝ, nsq (fun i => τ * x i) = τ * x 0 * (τ * x 0) + τ * x 1 * (τ * x 1) + τ * x 2 * (τ * x 2) :=
    fun τ => (mul_self_eq_nsq _).symm
  rw [e, SO3Mrp.exp.r_vec]; unfold usq
  split_ifs with h <;> funext i <;> fin_cases i <;> simp [cas_defs, cas_real, h]

/-- MRP exponential on the closed-form cell, for every angle with θ/4 away from the poles of tan
    (in particular all θ in [√eps, 2π)), shadow switch included: same matrix as exp(ω^) and norm ≤ 1 -/
theorem SO3Mrp_exp (x : Fin 3 → ℝ) (h : eps ≤ usq x)
    (hc : Real.cos (Real.sqrt (nsq x) / 4) ≠ 0) :
    nsq (SO3Mrp.exp.r_vec x) ≤ 1
      ∧ SO3Mrp.toMatrix.M_mat (SO3Mrp.exp.r_vec x) = exp (so3.toMatrix.M_mat x) := by
  have hu : 0 < nsq x := usq_eq x ▸ pos_of_cell h
  have hθ : Real.sqrt (nsq x) ≠ 0 := (Real.sqrt_pos.mpr hu).ne'
  have hτ : SqSeries.tan_quarter_over_x (usq x) = Real.tan (Real.sqrt (nsq x) / 4) / Real.sqrt (nsq x) := by
    rw [sq_tan_quarter_over_x_closed h, usq_eq]
  have hbase : mrpMat (fun i => SqSeries.tan_quarter_over_x (usq x) * x i) = exp (hat x) := by
    rw [hτ, mrpMat_tan_quarter x hθ hc]
  rw [SO3Mrp_toMatrix_spec, Spec.so3_toMatrix, SO3Mrp_exp_spec]
  by_cases hs : 1 < nsq (fun i => SqSeries.tan_quarter_over_x (usq x) * x i)
  · rw [if_pos hs]
    exact ⟨nsq_shadow_le _ hs, by rw [mrpMat_shadow _ (by linarith), hbase]⟩
  · rw [if_neg hs]
    exact ⟨not_lt.mp hs, hbase⟩

def rotv (x : Fin 6 → ℝ) : Fin 3 → ℝ := ![x 3, x 4, x 5]
def trv (x : Fin 6 → ℝ) : Fin 3 → ℝ := ![x 0, x 1, x 2]

/-- translational part: the code multiplies by J_l = 1 + A ω^ + B ω^² with series coefficients A, B -/
theorem SE3Quat_exp_core (x : Fin 6 → ℝ) :
    SE3Quat.toMatrix.M_mat (SE3Quat.exp.r_vec x)
      = se3Mat (qmat (SO3Quat.exp.r_vec (rotv x)))
          ((1 + SqSeries.one_minus_cos_over_x2 (usq (rotv x)) • hat (rotv x)
              + SqSeries.x_minus_sin_over_x3 (usq (rotv x)) • hat (rotv x) ^ 2).mulVec (trv x)) := by
  rw [Spec.SE3Quat_toMatrix, Spec.SE3Quat_exp_rot, Spec.SE3Quat_exp_tr, Spec.so3_left_jacobian]
  rfl

theorem SE3Quat_exp (x : Fin 6 → ℝ) (h : eps ≤ usq (rotv x) / 4) :
    SE3Quat.toMatrix.M_mat (SE3Quat.exp.r_vec x) = exp (se3.toMatrix.M_mat x) := by
  have h1 : eps ≤ usq (rotv x) := by
    have := eps_pos; linarith
  rw [SE3Quat_exp_core, Spec.se3_toMatrix, exp_se3Hat, SO3Quat_exp_closed _ h, qmat_qexp,
    sq_one_minus_cos_over_x2_closed h1, sq_x_minus_sin_over_x3_closed h1, usq_eq]
  rfl

theorem SE3Mrp_exp_core (x : Fin 6 → ℝ) :
    SE3Mrp.toMatrix.M_mat (SE3Mrp.exp.r_vec x)
      = se3Mat (SO3Mrp.toMatrix.M_mat (SO3Mrp.exp.r_vec (rotv x)))
          ((1 + SqSeries.one_minus_cos_over_x2 (usq (rotv x)) • hat (rotv x)
              + SqSeries.x_minus_sin_over_x3 (usq (rotv x)) • hat (rotv x) ^ 2).mulVec (trv x)) := by
  rw [Spec.SE3Mrp_toMatrix, Spec.SE3Mrp_exp_rot, Spec.SE3Mrp_exp_tr, Spec.so3_left_jacobian, ← Spec.SO3Mrp_toMatrix]
  rfl

theorem SE3Mrp_exp (x : Fin 6 → ℝ) (h : eps ≤ usq (rotv x))
    (hc : Real.cos (Real.sqrt (nsq (rotv x)) / 4) ≠ 0) :
    SE3Mrp.toMatrix.M_mat (SE3Mrp.exp.r_vec x) = exp (se3.toMatrix.M_mat x) := by
  rw [SE3Mrp_exp_core, Spec.se3_toMatrix, exp_se3Hat, (SO3Mrp_exp (rotv x) h hc).2, Spec.so3_toMatrix,
    sq_one_minus_cos_over_x2_closed h, sq_x_minus_sin_over_x3_closed h, usq_eq]
  rfl

/-- at zero rotation the translation passes through unchanged (J_l(0) = 1 acts on v) -/
theorem SE3Quat_exp_zero_rot (v : Fin 3 → ℝ) :
    SE3Quat.exp.r_vec ![v 0, v 1, v 2, 0, 0, 0] = ![v 0, v 1, v 2, 1, 0, 0, 0] := by
  rw [SE3Quat.exp.r_vec]
  lit_entries <;> simp [cas_defs, cas_real, sq_cos_x_zero, sq_sin_x_over_x_zero]

/-! non-vacuity: a rotation vector on the closed-form cell with θ > π -/
example : eps ≤ usq ![0, 4, 0] / 4 := by
  have := eps_bounds.2; simp [usq]; linarith

end C02
