/-
  Props/C02C.lean — the "in particular" clauses of C02 as corollaries of exp = matrix exponential (Props/C02):
      exp((s+t)x) = exp(sx) exp(tx),   exp(−x) exp(x) = identity
  as statements about the matrix forms of the translated programs, on the closed-form cells (every argument on the cell).
  One argument for all groups (`exp_add_of_eq`, `exp_neg_of_eq`): the translated hat map is linear (Props/Spec) and
  `Matrix.exp_add_of_commute`.
-/
import Props.C02

open Gen Rot RotExp NormedSpace SeriesLemmas

namespace C02C

theorem exp_add_smul {n : Type*} [Fintype n] [DecidableEq n] (A : Matrix n n ℝ) (s t : ℝ) :
    exp ((s + t) • A) = exp (s • A) * exp (t • A) := by
  rw [add_smul]
  exact Matrix.exp_add_of_commute _ _ ((Commute.refl A).smul_left s |>.smul_right t)

theorem exp_neg_mul {n : Type*} [Fintype n] [DecidableEq n] (A : Matrix n n ℝ) : exp (-A) * exp A = 1 := by
  rw [← Matrix.exp_add_of_commute _ _ (Commute.neg_left (Commute.refl A)), neg_add_cancel]
  exact NormedSpace.exp_zero

theorem exp_add_of_eq {n k : Type*} [Fintype n] [DecidableEq n] {hatM : (k → ℝ) → Matrix n n ℝ}
    (hlin : IsLinearMap ℝ hatM) (E : (k → ℝ) → Matrix n n ℝ) (x : k → ℝ) (s t : ℝ)
    (hs : E (s • x) = exp (hatM (s • x))) (ht : E (t • x) = exp (hatM (t • x)))
    (hst : E ((s + t) • x) = exp (hatM ((s + t) • x))) : E ((s + t) • x) = E (s • x) * E (t • x) := by
  rw [hs, ht, hst, hlin.map_smul, hlin.map_smul, hlin.map_smul, exp_add_smul]

theorem exp_neg_of_eq {n k : Type*} [Fintype n] [DecidableEq n] {hatM : (k → ℝ) → Matrix n n ℝ}
    (hlin : IsLinearMap ℝ hatM) (E : (k → ℝ) → Matrix n n ℝ) (x : k → ℝ)
    (hn : E (-x) = exp (hatM (-x))) (h : E x = exp (hatM x)) : E (-x) * E x = 1 := by
  rw [hn, h, hlin.map_neg, exp_neg_mul]

theorem SO3Dcm_exp_add (x : Fin 3 → ℝ) (s t : ℝ)
    (hs : eps ≤ C02.usq (s • x)) (ht : eps ≤ C02.usq (t • x)) (hst : eps ≤ C02.usq ((s + t) • x)) :
    SO3Dcm.toMatrix.M_mat (SO3Dcm.exp.r_vec ((s + t) • x))
      = SO3Dcm.toMatrix.M_mat (SO3Dcm.exp.r_vec (s • x)) * SO3Dcm.toMatrix.M_mat (SO3Dcm.exp.r_vec (t • x)) :=
  exp_add_of_eq Spec.so3_toMatrix_linear (fun x => SO3Dcm.toMatrix.M_mat (SO3Dcm.exp.r_vec x)) x s t
    (C02.SO3Dcm_exp _ hs) (C02.SO3Dcm_exp _ ht) (C02.SO3Dcm_exp _ hst)

theorem SO3Dcm_exp_neg (x : Fin 3 → ℝ) (h : eps ≤ C02.usq x) :
    SO3Dcm.toMatrix.M_mat (SO3Dcm.exp.r_vec (-x)) * SO3Dcm.toMatrix.M_mat (SO3Dcm.exp.r_vec x) = 1 := by
  have hn : eps ≤ C02.usq (-x) := by simpa [C02.usq] using h
  exact exp_neg_of_eq Spec.so3_toMatrix_linear (fun x => SO3Dcm.toMatrix.M_mat (SO3Dcm.exp.r_vec x)) x
    (C02.SO3Dcm_exp _ hn) (C02.SO3Dcm_exp _ h)

theorem SO3Quat_exp_add (x : Fin 3 → ℝ) (s t : ℝ)
    (hs : eps ≤ C02.usq (s • x) / 4) (ht : eps ≤ C02.usq (t • x) / 4) (hst : eps ≤ C02.usq ((s + t) • x) / 4) :
    SO3Quat.toMatrix.M_mat (SO3Quat.exp.r_vec ((s + t) • x))
      = SO3Quat.toMatrix.M_mat (SO3Quat.exp.r_vec (s • x)) * SO3Quat.toMatrix.M_mat (SO3Quat.exp.r_vec (t • x)) :=
  exp_add_of_eq Spec.so3_toMatrix_linear (fun x => SO3Quat.toMatrix.M_mat (SO3Quat.exp.r_vec x)) x s t
    (C02.SO3Quat_exp _ hs).2 (C02.SO3Quat_exp _ ht).2 (C02.SO3Quat_exp _ hst).2

theorem SO3Quat_exp_neg (x : Fin 3 → ℝ) (h : eps ≤ C02.usq x / 4) :
    SO3Quat.toMatrix.M_mat (SO3Quat.exp.r_vec (-x)) * SO3Quat.toMatrix.M_mat (SO3Quat.exp.r_vec x) = 1 := by
  have hn : eps ≤ C02.usq (-x) / 4 := by simpa [C02.usq] using h
  exact exp_neg_of_eq Spec.so3_toMatrix_linear (fun x => SO3Quat.toMatrix.M_mat (SO3Quat.exp.r_vec x)) x
    (C02.SO3Quat_exp _ hn).2 (C02.SO3Quat_exp _ h).2

theorem SE2_exp_add (x : Fin 3 → ℝ) (s t : ℝ)
    (hs : eps ≤ |(s • x) 2|) (ht : eps ≤ |(t • x) 2|) (hst : eps ≤ |((s + t) • x) 2|) :
    SE2.toMatrix.M_mat (SE2.exp.r_vec ((s + t) • x))
      = SE2.toMatrix.M_mat (SE2.exp.r_vec (s • x)) * SE2.toMatrix.M_mat (SE2.exp.r_vec (t • x)) :=
  exp_add_of_eq Spec.se2_toMatrix_linear (fun x => SE2.toMatrix.M_mat (SE2.exp.r_vec x)) x s t
    (C02.SE2_exp _ hs) (C02.SE2_exp _ ht) (C02.SE2_exp _ hst)

theorem SE2_exp_neg (x : Fin 3 → ℝ) (h : eps ≤ |x 2|) :
    SE2.toMatrix.M_mat (SE2.exp.r_vec (-x)) * SE2.toMatrix.M_mat (SE2.exp.r_vec x) = 1 := by
  have hn : eps ≤ |(-x) 2| := by simpa using h
  exact exp_neg_of_eq Spec.se2_toMatrix_linear (fun x => SE2.toMatrix.M_mat (SE2.exp.r_vec x)) x
    (C02.SE2_exp _ hn) (C02.SE2_exp _ h)

theorem SE3Quat_exp_add (x : Fin 6 → ℝ) (s t : ℝ)
    (hs : eps ≤ C02.usq (C02.rotv (s • x)) / 4) (ht : eps ≤ C02.usq (C02.rotv (t • x)) / 4)
    (hst : eps ≤ C02.usq (C02.rotv ((s + t) • x)) / 4) :
    SE3Quat.toMatrix.M_mat (SE3Quat.exp.r_vec ((s + t) • x))
      = SE3Quat.toMatrix.M_mat (SE3Quat.exp.r_vec (s • x)) * SE3Quat.toMatrix.M_mat (SE3Quat.exp.r_vec (t • x)) :=
  exp_add_of_eq Spec.se3_toMatrix_linear (fun x => SE3Quat.toMatrix.M_mat (SE3Quat.exp.r_vec x)) x s t
    (C02.SE3Quat_exp _ hs) (C02.SE3Quat_exp _ ht) (C02.SE3Quat_exp _ hst)

theorem SE3Quat_exp_neg (x : Fin 6 → ℝ) (h : eps ≤ C02.usq (C02.rotv x) / 4) :
    SE3Quat.toMatrix.M_mat (SE3Quat.exp.r_vec (-x)) * SE3Quat.toMatrix.M_mat (SE3Quat.exp.r_vec x) = 1 := by
  have hn : eps ≤ C02.usq (C02.rotv (-x)) / 4 := by simpa [C02.usq, C02.rotv] using h
  exact exp_neg_of_eq Spec.se3_toMatrix_linear (fun x => SE3Quat.toMatrix.M_mat (SE3Quat.exp.r_vec x)) x
    (C02.SE3Quat_exp _ hn) (C02.SE3Quat_exp _ h)

theorem SO3Mrp_exp_add (x : Fin 3 → ℝ) (s t : ℝ)
    (hs : eps ≤ C02.usq (s • x)) (ht : eps ≤ C02.usq (t • x)) (hst : eps ≤ C02.usq ((s + t) • x))
    (cs : Real.cos (Real.sqrt (nsq (s • x)) / 4) ≠ 0) (ct : Real.cos (Real.sqrt (nsq (t • x)) / 4) ≠ 0)
    (cst : Real.cos (Real.sqrt (nsq ((s + t) • x)) / 4) ≠ 0) :
    SO3Mrp.toMatrix.M_mat (SO3Mrp.exp.r_vec ((s + t) • x))
      = SO3Mrp.toMatrix.M_mat (SO3Mrp.exp.r_vec (s • x)) * SO3Mrp.toMatrix.M_mat (SO3Mrp.exp.r_vec (t • x)) :=
  exp_add_of_eq Spec.so3_toMatrix_linear (fun x => SO3Mrp.toMatrix.M_mat (SO3Mrp.exp.r_vec x)) x s t
    (C02.SO3Mrp_exp _ hs cs).2 (C02.SO3Mrp_exp _ ht ct).2 (C02.SO3Mrp_exp _ hst cst).2

theorem SO3Mrp_exp_neg (x : Fin 3 → ℝ) (h : eps ≤ C02.usq x) (hc : Real.cos (Real.sqrt (nsq x) / 4) ≠ 0) :
    SO3Mrp.toMatrix.M_mat (SO3Mrp.exp.r_vec (-x)) * SO3Mrp.toMatrix.M_mat (SO3Mrp.exp.r_vec x) = 1 := by
  have hn : eps ≤ C02.usq (-x) := by simpa [C02.usq] using h
  have hcn : Real.cos (Real.sqrt (nsq (-x)) / 4) ≠ 0 := by simpa [nsq] using hc
  exact exp_neg_of_eq Spec.so3_toMatrix_linear (fun x => SO3Mrp.toMatrix.M_mat (SO3Mrp.exp.r_vec x)) x
    (C02.SO3Mrp_exp _ hn hcn).2 (C02.SO3Mrp_exp _ h hc).2

theorem SE3Mrp_exp_add (x : Fin 6 → ℝ) (s t : ℝ)
    (hs : eps ≤ C02.usq (C02.rotv (s • x))) (ht : eps ≤ C02.usq (C02.rotv (t • x))) (hst : eps ≤ C02.usq (C02.rotv ((s + t) • x)))
    (cs : Real.cos (Real.sqrt (nsq (C02.rotv (s • x))) / 4) ≠ 0) (ct : Real.cos (Real.sqrt (nsq (C02.rotv (t • x))) / 4) ≠ 0)
    (cst : Real.cos (Real.sqrt (nsq (C02.rotv ((s + t) • x))) / 4) ≠ 0) :
    SE3Mrp.toMatrix.M_mat (SE3Mrp.exp.r_vec ((s + t) • x))
      = SE3Mrp.toMatrix.M_mat (SE3Mrp.exp.r_vec (s • x)) * SE3Mrp.toMatrix.M_mat (SE3Mrp.exp.r_vec (t • x)) :=
  exp_add_of_eq Spec.se3_toMatrix_linear (fun x => SE3Mrp.toMatrix.M_mat (SE3Mrp.exp.r_vec x)) x s t
    (C02.SE3Mrp_exp _ hs cs) (C02.SE3Mrp_exp _ ht ct) (C02.SE3Mrp_exp _ hst cst)

theorem SE3Mrp_exp_neg (x : Fin 6 → ℝ) (h : eps ≤ C02.usq (C02.rotv x)) (hc : Real.cos (Real.sqrt (nsq (C02.rotv x)) / 4) ≠ 0) :
    SE3Mrp.toMatrix.M_mat (SE3Mrp.exp.r_vec (-x)) * SE3Mrp.toMatrix.M_mat (SE3Mrp.exp.r_vec x) = 1 := by
  have hn : eps ≤ C02.usq (C02.rotv (-x)) := by simpa [C02.usq, C02.rotv] using h
  have hcn : Real.cos (Real.sqrt (nsq (C02.rotv (-x))) / 4) ≠ 0 := by simpa [nsq, C02.rotv] using hc
  exact exp_neg_of_eq Spec.se3_toMatrix_linear (fun x => SE3Mrp.toMatrix.M_mat (SE3Mrp.exp.r_vec x)) x
    (C02.SE3Mrp_exp _ hn hcn) (C02.SE3Mrp_exp _ h hc)

end C02C
