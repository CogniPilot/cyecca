/-
  Props/C02S.lean — SE₂(3), quaternion form: the group exponential is the matrix exponential on the closed-form cell.
  cyecca's `exp` builds M = 1 + X(1 + C₁X + C₂X²) and returns `from_Matrix M`.  The probe module SE23P holds a second
  printing `exp_p` of the same program that returns M as well (`exp_p.M_mat`), and its outputs as programs of the entries of M
  (`exp_peeled`).  Route: `exp` and `exp_p` are the same text once unfolded (`exp_is_probed`); with the entries of M as
  variables the outputs are `from_Matrix M` (`exp_is_fromMatrix`); M is 1 + X + C₁X² + C₂X³ with the code's coefficients for
  every x (`SE23Quat_exp_M`), hence exp X on the cell (`SE23Quat_exp_M_exp`), which has SE₂(3) shape with a proper rotation
  block (Lib/ExpForms); on such matrices `to_Matrix ∘ from_Matrix` is the identity by the Shepperd theorem of C07
  (`SE23Quat_to_from`).
-/
import GenM.SE23P
import Props.Spec.SE23
import Props.C02
import Props.C07

open Gen Rot RotExp NormedSpace SeriesLemmas

namespace C02S

def pv (x : Fin 9 → ℝ) : Fin 3 → ℝ := ![x 0, x 1, x 2]
def vv (x : Fin 9 → ℝ) : Fin 3 → ℝ := ![x 3, x 4, x 5]
def wv (x : Fin 9 → ℝ) : Fin 3 → ℝ := ![x 6, x 7, x 8]

theorem se23_hat (x : Fin 9 → ℝ) : se23.toMatrix.M_mat x = se23Hat (pv x) (vv x) (wv x) := Spec.se23_toMatrix x

theorem SE23Quat_exp_M (x : Fin 9 → ℝ) :
    SE23Quat.exp_p.M_mat x = 1 + se23Hat (pv x) (vv x) (wv x)
      + SqSeries.one_minus_cos_over_x2 (C02.usq (wv x)) • se23Hat (pv x) (vv x) (wv x) ^ 2
      + SqSeries.x_minus_sin_over_x3 (C02.usq (wv x)) • se23Hat (pv x) (vv x) (wv x) ^ 3 := by
  rw [pow_three', pow_two]
  -- the entry is picked out of both sides before any program is unfolded (unfolding first unfolds all 25 in every goal),
  -- and by `simp only`: the full simp set is several times dearer on these terms
  mat_entries <;>
    simp only [SE23Quat.exp_p.M_mat, se23Hat, pv, vv, wv, Matrix.mul_apply, Fin.sum_univ_five, Matrix.one_apply,
      Matrix.add_apply, Matrix.smul_apply, Matrix.of_apply, Matrix.cons_val, smul_eq_mul, ↓reduceIte, Fin.zero_eta,
      Fin.mk_one, Fin.reduceFinMk, Fin.reduceEq] <;>
    simp only [cas_defs, cas_real, C02.usq, Matrix.cons_val] <;> ring

theorem SE23Quat_exp_M_exp (x : Fin 9 → ℝ) (h : eps ≤ C02.usq (wv x)) :
    SE23Quat.exp_p.M_mat x = exp (se23.toMatrix.M_mat x) := by
  rw [SE23Quat_exp_M, se23_hat, matrix_exp_closed_form _ _ (se23Hat_pow_four _ _ _), sq_one_minus_cos_over_x2_closed h,
    sq_x_minus_sin_over_x3_closed h, C02.usq_eq]

/-- from_Matrix reads position and velocity off the last two columns and extracts the quaternion from the 3×3 block with the
    library's Shepperd routine (the same text once unfolded) -/
theorem SE23Quat_fromMatrix_spec (M : Matrix (Fin 5) (Fin 5) ℝ) :
    SE23Quat.fromMatrix.r_vec (fun i j => M i j)
      = ![M 0 4, M 1 4, M 2 4, M 0 3, M 1 3, M 2 3,
          SO3Quat.fromMatrix.r_vec (fun i j => M (Fin.castLE (by omega) i) (Fin.castLE (by omega) j)) 0,
          SO3Quat.fromMatrix.r_vec (fun i j => M (Fin.castLE (by omega) i) (Fin.castLE (by omega) j)) 1,
          SO3Quat.fromMatrix.r_vec (fun i j => M (Fin.castLE (by omega) i) (Fin.castLE (by omega) j)) 2,
          SO3Quat.fromMatrix.r_vec (fun i j => M (Fin.castLE (by omega) i) (Fin.castLE (by omega) j)) 3] := by
  have c1 : Fin.castLE (by omega : 3 ≤ 5) 1 = 1 := rfl
  have c2 : Fin.castLE (by omega : 3 ≤ 5) 2 = 2 := rfl
  simp only [cas_defs, Matrix.cons_val, Fin.castLE_zero, c1, c2]

theorem SE23Quat_to_from (R : Matrix (Fin 3) (Fin 3) ℝ) (a v : Fin 3 → ℝ) (hrot : IsRot R) :
    SE23Quat.toMatrix.M_mat (SE23Quat.fromMatrix.r_vec (fun i j => se23Mat R a v i j)) = se23Mat R a v := by
  rw [SE23Quat_fromMatrix_spec, Spec.SE23Quat_toMatrix, se23Mat_block]
  exact (se23Mat_cols _ R a v).trans (congrArg (se23Mat · a v) (C07.SO3Quat_fromMatrix R hrot).2)

/-- the probed program is the un-probed one: unfolded, the two are the same text -/
theorem exp_is_probed (x : Fin 9 → ℝ) : SE23Quat.exp.r_vec x = SE23Quat.exp_p.r_vec x := by
  simp only [cas_defs]

theorem exp_peeled (x : Fin 9 → ℝ) :
    SE23Quat.exp_p.r_vec x = (fun M : Matrix (Fin 5) (Fin 5) ℝ =>
      (![SE23Quat.exp_p.r_0_cut x (M 0 0) (M 1 0) (M 2 0) (M 3 0) (M 4 0) (M 0 1) (M 1 1) (M 2 1) (M 3 1) (M 4 1) (M 0 2) (M 1 2) (M 2 2) (M 3 2) (M 4 2) (M 0 3) (M 1 3) (M 2 3) (M 3 3) (M 4 3) (M 0 4) (M 1 4) (M 2 4) (M 3 4) (M 4 4), SE23Quat.exp_p.r_1_cut x (M 0 0) (M 1 0) (M 2 0) (M 3 0) (M 4 0) (M 0 1) (M 1 1) (M 2 1) (M 3 1) (M 4 1) (M 0 2) (M 1 2) (M 2 2) (M 3 2) (M 4 2) (M 0 3) (M 1 3) (M 2 3) (M 3 3) (M 4 3) (M 0 4) (M 1 4) (M 2 4) (M 3 4) (M 4 4), SE23Quat.exp_p.r_2_cut x (M 0 0) (M 1 0) (M 2 0) (M 3 0) (M 4 0) (M 0 1) (M 1 1) (M 2 1) (M 3 1) (M 4 1) (M 0 2) (M 1 2) (M 2 2) (M 3 2) (M 4 2) (M 0 3) (M 1 3) (M 2 3) (M 3 3) (M 4 3) (M 0 4) (M 1 4) (M 2 4) (M 3 4) (M 4 4),
       SE23Quat.exp_p.r_3_cut x (M 0 0) (M 1 0) (M 2 0) (M 3 0) (M 4 0) (M 0 1) (M 1 1) (M 2 1) (M 3 1) (M 4 1) (M 0 2) (M 1 2) (M 2 2) (M 3 2) (M 4 2) (M 0 3) (M 1 3) (M 2 3) (M 3 3) (M 4 3) (M 0 4) (M 1 4) (M 2 4) (M 3 4) (M 4 4), SE23Quat.exp_p.r_4_cut x (M 0 0) (M 1 0) (M 2 0) (M 3 0) (M 4 0) (M 0 1) (M 1 1) (M 2 1) (M 3 1) (M 4 1) (M 0 2) (M 1 2) (M 2 2) (M 3 2) (M 4 2) (M 0 3) (M 1 3) (M 2 3) (M 3 3) (M 4 3) (M 0 4) (M 1 4) (M 2 4) (M 3 4) (M 4 4), SE23Quat.exp_p.r_5_cut x (M 0 0) (M 1 0) (M 2 0) (M 3 0) (M 4 0) (M 0 1) (M 1 1) (M 2 1) (M 3 1) (M 4 1) (M 0 2) (M 1 2) (M 2 2) (M 3 2) (M 4 2) (M 0 3) (M 1 3) (M 2 3) (M 3 3) (M 4 3) (M 0 4) (M 1 4) (M 2 4) (M 3 4) (M 4 4),
       SE23Quat.exp_p.r_6_cut x (M 0 0) (M 1 0) (M 2 0) (M 3 0) (M 4 0) (M 0 1) (M 1 1) (M 2 1) (M 3 1) (M 4 1) (M 0 2) (M 1 2) (M 2 2) (M 3 2) (M 4 2) (M 0 3) (M 1 3) (M 2 3) (M 3 3) (M 4 3) (M 0 4) (M 1 4) (M 2 4) (M 3 4) (M 4 4), SE23Quat.exp_p.r_7_cut x (M 0 0) (M 1 0) (M 2 0) (M 3 0) (M 4 0) (M 0 1) (M 1 1) (M 2 1) (M 3 1) (M 4 1) (M 0 2) (M 1 2) (M 2 2) (M 3 2) (M 4 2) (M 0 3) (M 1 3) (M 2 3) (M 3 3) (M 4 3) (M 0 4) (M 1 4) (M 2 4) (M 3 4) (M 4 4), SE23Quat.exp_p.r_8_cut x (M 0 0) (M 1 0) (M 2 0) (M 3 0) (M 4 0) (M 0 1) (M 1 1) (M 2 1) (M 3 1) (M 4 1) (M 0 2) (M 1 2) (M 2 2) (M 3 2) (M 4 2) (M 0 3) (M 1 3) (M 2 3) (M 3 3) (M 4 3) (M 0 4) (M 1 4) (M 2 4) (M 3 4) (M 4 4),
       SE23Quat.exp_p.r_9_cut x (M 0 0) (M 1 0) (M 2 0) (M 3 0) (M 4 0) (M 0 1) (M 1 1) (M 2 1) (M 3 1) (M 4 1) (M 0 2) (M 1 2) (M 2 2) (M 3 2) (M 4 2) (M 0 3) (M 1 3) (M 2 3) (M 3 3) (M 4 3) (M 0 4) (M 1 4) (M 2 4) (M 3 4) (M 4 4)] : Fin 10 → ℝ)) (SE23Quat.exp_p.M_mat x) := by
  simp only [cas_defs, Matrix.of_apply, Matrix.cons_val]

/-- the outputs of the real exp ARE from_Matrix applied to the exposed matrix.  With the entries of M as variables the two
    programs are the same text but for the radicands of the third and fourth Shepperd branch, 1 − M₀₀ ± M₁₁ ∓ M₂₂: the
    peeled program still knows M₀₀ = 1 + e as an expression of x, and CasADi has folded the two 1s, leaving ±M₁₁ ∓ M₂₂ − e. -/
theorem exp_is_fromMatrix (x : Fin 9 → ℝ) :
    SE23Quat.exp_p.r_vec x = SE23Quat.fromMatrix.r_vec (fun i j => SE23Quat.exp_p.M_mat x i j) := by
  have h : SE23Quat.exp_p.M_mat x 0 0 = SE23Quat.exp_p.M_0_0 x := rfl
  rw [exp_peeled]
  generalize SE23Quat.exp_p.M_mat x = M at h ⊢
  simp only [cas_defs, cas_real] at h
  have r3 : M 1 1 - (M 0 0 - 1) - M 2 2 = 1 - M 0 0 + M 1 1 - M 2 2 := by ring
  have r4 : M 2 2 - (M 0 0 - 1 + M 1 1) = 1 - M 0 0 - M 1 1 + M 2 2 := by ring
  simp only [cas_defs, cas_real, ← sub_eq_of_eq_add' h, r3, r4]

/-- **SE₂(3), quaternion form: the group exponential is the matrix exponential** on the closed-form cell (θ² ≥ eps, no upper
    bound on the angle) -/
theorem SE23Quat_exp (x : Fin 9 → ℝ) (h : eps ≤ C02.usq (wv x)) :
    SE23Quat.toMatrix.M_mat (SE23Quat.exp.r_vec x) = exp (se23.toMatrix.M_mat x) := by
  rw [exp_is_probed, exp_is_fromMatrix, SE23Quat_exp_M_exp x h, se23_hat, exp_se23Hat]
  exact SE23Quat_to_from _ _ _ (isRot_exp_hat _)

end C02S
