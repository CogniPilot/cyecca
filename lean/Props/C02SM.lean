/-
  Props/C02SM.lean — SE₂(3), MRP form: the group exponential is the matrix exponential on the closed-form cell.
  As programs, `SE23Mrp.exp` and `SE23Mrp.from_Matrix` are their quaternion counterparts followed by the library's
  quaternion → MRP conversion of the attitude (`ofQuat`): the same text once unfolded.  So `exp x = from_Matrix M`, with M
  the matrix of Props/C02S, carries over from the quaternion form, and `to_Matrix ∘ from_Matrix` is the identity on M through
  C07's matrix → MRP theorem.
-/
import Props.C02S

open Gen Rot RotExp NormedSpace SeriesLemmas

namespace C02SM
open C02S

/-- an element in quaternion form taken to MRP form: position and velocity kept, the attitude through `SO3Mrp.from_Quat`.
    Not an operation of cyecca: its `SO3Mrp.from_Matrix` is `from_Quat` after the quaternion's `from_Matrix` (through the DCM
    form), and this is what CasADi leaves of that call inside `SE23Mrp.from_Matrix` and `SE23Mrp.exp`. -/
noncomputable def ofQuat (g : Fin 10 → ℝ) : Fin 9 → ℝ :=
  ![g 0, g 1, g 2, g 3, g 4, g 5, SO3Mrp.from_Quat.r_vec ![g 6, g 7, g 8, g 9] 0,
    SO3Mrp.from_Quat.r_vec ![g 6, g 7, g 8, g 9] 1, SO3Mrp.from_Quat.r_vec ![g 6, g 7, g 8, g 9] 2]

theorem SE23Mrp_exp_ofQuat (x : Fin 9 → ℝ) : SE23Mrp.exp.r_vec x = ofQuat (SE23Quat.exp.r_vec x) := by
  simp only [cas_defs, ofQuat, Matrix.cons_val]

theorem SE23Mrp_fromMatrix_ofQuat (M : Fin 5 → Fin 5 → ℝ) :
    SE23Mrp.fromMatrix.r_vec M = ofQuat (SE23Quat.fromMatrix.r_vec M) := by
  simp only [cas_defs, ofQuat, Matrix.cons_val]

theorem SE23Mrp_fromMatrix_spec (M : Matrix (Fin 5) (Fin 5) ℝ) :
    SE23Mrp.fromMatrix.r_vec (fun i j => M i j)
      = ![M 0 4, M 1 4, M 2 4, M 0 3, M 1 3, M 2 3,
          SO3Mrp.fromMatrix.r_vec (fun i j => M (Fin.castLE (by omega) i) (Fin.castLE (by omega) j)) 0,
          SO3Mrp.fromMatrix.r_vec (fun i j => M (Fin.castLE (by omega) i) (Fin.castLE (by omega) j)) 1,
          SO3Mrp.fromMatrix.r_vec (fun i j => M (Fin.castLE (by omega) i) (Fin.castLE (by omega) j)) 2] := by
  have c1 : Fin.castLE (by omega : 3 ≤ 5) 1 = 1 := rfl
  have c2 : Fin.castLE (by omega : 3 ≤ 5) 2 = 2 := rfl
  simp only [cas_defs, Matrix.cons_val, Fin.castLE_zero, c1, c2]

theorem SE23Mrp_to_from (R : Matrix (Fin 3) (Fin 3) ℝ) (a v : Fin 3 → ℝ) (hrot : IsRot R) :
    SE23Mrp.toMatrix.M_mat (SE23Mrp.fromMatrix.r_vec (fun i j => se23Mat R a v i j)) = se23Mat R a v := by
  rw [SE23Mrp_fromMatrix_spec, Spec.SE23Mrp_toMatrix, se23Mat_block]
  exact (se23Mat_cols _ R a v).trans
    (congrArg (se23Mat · a v) ((Spec.SO3Mrp_toMatrix _).symm.trans (C07.Mrp_fromMatrix R hrot).2))

theorem SE23Mrp_exp_is_fromMatrix (x : Fin 9 → ℝ) :
    SE23Mrp.exp.r_vec x = SE23Mrp.fromMatrix.r_vec (fun i j => SE23Quat.exp_p.M_mat x i j) := by
  rw [SE23Mrp_exp_ofQuat, exp_is_probed, exp_is_fromMatrix, ← SE23Mrp_fromMatrix_ofQuat]

/-- **SE₂(3), MRP form: the group exponential is the matrix exponential** on the closed-form cell -/
theorem SE23Mrp_exp (x : Fin 9 → ℝ) (h : eps ≤ C02.usq (wv x)) :
    SE23Mrp.toMatrix.M_mat (SE23Mrp.exp.r_vec x) = exp (se23.toMatrix.M_mat x) := by
  rw [SE23Mrp_exp_is_fromMatrix, SE23Quat_exp_M_exp x h, se23_hat, exp_se23Hat]
  exact SE23Mrp_to_from _ _ _ (isRot_exp_hat _)

end C02SM
