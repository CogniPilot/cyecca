/-
  Props/C03.lean — log inverts exp and returns the principal rotation vector.
  Core identities hold for every input with the series coefficients as opaque values;
  cell statements use the closed-form branch of the coefficients.
-/
import Props.C02
import Mathlib.Analysis.Real.Pi.Bounds

open Gen Rot RotExp SeriesLemmas

namespace C03

/-! ## SO(2), ℝⁿ: exp and log are mutually inverse identically -/
theorem SO2_log_exp (x : ℝ) : SO2.log.r (SO2.exp.r x) = x := by simp only [cas_defs, cas_real]
theorem SO2_exp_log (a : ℝ) : SO2.exp.r (SO2.log.r a) = a := by simp only [cas_defs, cas_real]
theorem R3_log_exp (x : Fin 3 → ℝ) : R3.log.r_vec (R3.exp.r_vec x) = x := by
  simp only [cas_defs, cas_real, Matrix.cons_val, Matrix.cons_val_zero, Matrix.cons_val_one]
  exact FinVec.etaExpand_eq x
theorem R3_exp_log (a : Fin 3 → ℝ) : R3.exp.r_vec (R3.log.r_vec a) = a := by
  simp only [cas_defs, cas_real, Matrix.cons_val, Matrix.cons_val_zero, Matrix.cons_val_one]
  exact FinVec.etaExpand_eq a
theorem R2_log_exp (x : Fin 2 → ℝ) : R2.log.r_vec (R2.exp.r_vec x) = x := by
  simp only [cas_defs, cas_real, Matrix.cons_val_zero, Matrix.cons_val_one]
  exact FinVec.etaExpand_eq x
theorem R2_exp_log (a : Fin 2 → ℝ) : R2.exp.r_vec (R2.log.r_vec a) = a := by
  simp only [cas_defs, cas_real, Matrix.cons_val_zero, Matrix.cons_val_one]
  exact FinVec.etaExpand_eq a

/-! ## SE(2): V⁻¹ V = 1 whenever the code's denominator a² + b² is non-zero -/
theorem SE2_exp_log (X : Fin 3 → ℝ)
    (hden : Series.sin_x_over_x (X 2) * Series.sin_x_over_x (X 2)
            + Series.one_minus_cos_over_x (X 2) * Series.one_minus_cos_over_x (X 2) ≠ 0) :
    SE2.exp.r_vec (SE2.log.r_vec X) = X := by
  have one := div_self hden
  refine Eq.trans ?_ (FinVec.etaExpand_eq X)
  simp only [cas_defs, cas_real, Matrix.cons_val, Matrix.cons_val_zero, Matrix.cons_val_one]
  show _ = ![X 0, X 1, X 2]
  lit_entries
  · linear_combination X 0 * one
  · linear_combination X 1 * one
theorem SE2_log_exp (x : Fin 3 → ℝ)
    (hden : Series.sin_x_over_x (x 2) * Series.sin_x_over_x (x 2)
            + Series.one_minus_cos_over_x (x 2) * Series.one_minus_cos_over_x (x 2) ≠ 0) :
    SE2.log.r_vec (SE2.exp.r_vec x) = x := by
  have one := div_self hden
  refine Eq.trans ?_ (FinVec.etaExpand_eq x)
  simp only [cas_defs, cas_real, Matrix.cons_val, Matrix.cons_val_zero, Matrix.cons_val_one]
  show _ = ![x 0, x 1, x 2]
  lit_entries
  · linear_combination x 0 * one
  · linear_combination x 1 * one
/-- on the closed-form cell the denominator vanishes only where cos θ = 1: its second term is ((1 − cos θ)/θ)² -/
theorem SE2_den_ne_zero_of_cos {t : ℝ} (h : eps ≤ |t|) (hc : Real.cos t ≠ 1) :
    Series.sin_x_over_x t * Series.sin_x_over_x t
      + Series.one_minus_cos_over_x t * Series.one_minus_cos_over_x t ≠ 0 := by
  have h0 : t ≠ 0 := ne_zero_of_cell h
  rw [one_minus_cos_over_x_closed h, cFun, if_neg h0]
  intro hz
  exact mul_ne_zero h0 (div_ne_zero (sub_ne_zero.mpr hc.symm) (pow_ne_zero 2 h0))
    (mul_self_add_mul_self_eq_zero.mp hz).2
theorem SE2_den_ne_zero (t : ℝ) (h : eps ≤ |t|) (h2 : |t| < 2 * Real.pi) :
    Series.sin_x_over_x t * Series.sin_x_over_x t
      + Series.one_minus_cos_over_x t * Series.one_minus_cos_over_x t ≠ 0 :=
  SE2_den_ne_zero_of_cos h fun hc => ne_zero_of_cell h
    ((Real.cos_eq_one_iff_of_lt_of_lt (abs_lt.mp h2).1 (abs_lt.mp h2).2).mp hc)

def usq (x : Fin 3 → ℝ) : ℝ := x 0 * x 0 + x 1 * x 1 + x 2 * x 2
theorem usq_eq (x : Fin 3 → ℝ) : usq x = nsq x := C02.usq_eq x

theorem SO3Mrp_log_spec (r : Fin 3 → ℝ) :
    SO3Mrp.log.r_vec r = fun i => SqSeries.four_atan_over_x (usq r) * r i := by
  simp only [cas_defs, cas_real, usq]
  funext i; fin_cases i <;> rfl

/-- the MRP log is the principal rotation vector: angle 4·atan|r| ≤ π for |r| ≤ 1 -/
theorem SO3Mrp_log_principal (r : Fin 3 → ℝ) (h : eps ≤ usq r) (h1 : usq r ≤ 1) :
    Real.sqrt (nsq (SO3Mrp.log.r_vec r)) = 4 * Real.arctan (Real.sqrt (nsq r))
      ∧ Real.sqrt (nsq (SO3Mrp.log.r_vec r)) ≤ Real.pi := by
  have hs : 0 < Real.sqrt (nsq r) := Real.sqrt_pos.mpr (usq_eq r ▸ pos_of_cell h)
  have hat : 0 ≤ Real.arctan (Real.sqrt (nsq r)) := by
    rw [← Real.arctan_zero]; exact Real.arctan_strictMono.monotone hs.le
  have e : Real.sqrt (nsq (SO3Mrp.log.r_vec r)) = 4 * Real.arctan (Real.sqrt (nsq r)) := by
    rw [SO3Mrp_log_spec, sq_four_atan_over_x_closed h, usq_eq, sqrt_nsq_smul, abs_of_nonneg (by positivity),
      div_mul_cancel₀ _ hs.ne']
  refine ⟨e, ?_⟩
  have hle : Real.sqrt (nsq r) ≤ 1 := by
    rw [← Real.sqrt_one]; exact Real.sqrt_le_sqrt (by rw [← usq_eq]; exact h1)
  have : Real.arctan (Real.sqrt (nsq r)) ≤ Real.pi / 4 := by
    rw [← Real.arctan_one]; exact Real.arctan_strictMono.monotone hle
  linarith

/-- exp(log r) = r for canonical MRPs (|r| ≤ 1) on the closed-form cells of both coefficients -/
theorem SO3Mrp_exp_log (r : Fin 3 → ℝ) (h : eps ≤ usq r) (h1 : usq r ≤ 1)
    (h2 : eps ≤ usq (SO3Mrp.log.r_vec r)) :
    SO3Mrp.exp.r_vec (SO3Mrp.log.r_vec r) = r := by
  have hu : 0 < nsq r := usq_eq r ▸ pos_of_cell h
  have hs : 0 < Real.sqrt (nsq r) := Real.sqrt_pos.mpr hu
  obtain ⟨hθ, _⟩ := SO3Mrp_log_principal r h h1
  have hatpos : 0 < Real.arctan (Real.sqrt (nsq r)) := by
    rw [← Real.arctan_zero]; exact Real.arctan_strictMono hs
  have hτ : SqSeries.tan_quarter_over_x (C02.usq (SO3Mrp.log.r_vec r))
      = Real.sqrt (nsq r) / (4 * Real.arctan (Real.sqrt (nsq r))) := by
    have h2' : eps ≤ C02.usq (SO3Mrp.log.r_vec r) := h2
    rw [sq_tan_quarter_over_x_closed h2', C02.usq_eq, hθ]
    rw [show 4 * Real.arctan (Real.sqrt (nsq r)) / 4 = Real.arctan (Real.sqrt (nsq r)) by ring,
      Real.tan_arctan]
  have hy : (fun i => SqSeries.tan_quarter_over_x (C02.usq (SO3Mrp.log.r_vec r)) * SO3Mrp.log.r_vec r i) = r := by
    funext i
    rw [hτ, SO3Mrp_log_spec, sq_four_atan_over_x_closed h, usq_eq]
    field_simp
  rw [C02.SO3Mrp_exp_spec, hy]
  have : ¬ 1 < nsq r := by rw [← usq_eq]; exact not_lt.mpr h1
  rw [if_neg this]

/-! ## SO(3), quaternion form: principal and sign-independent -/

/-- log(−q) = log(q) whenever q0 ≠ 0: the sign of a quaternion does not matter -/
theorem SO3Quat_log_neg (q : Fin 4 → ℝ) (h0 : q 0 ≠ 0)
    (hn : 0 < q 0 * q 0 + q 1 * q 1 + q 2 * q 2 + q 3 * q 3) :
    SO3Quat.log.r_0 (-q) = SO3Quat.log.r_0 q ∧ SO3Quat.log.r_1 (-q) = SO3Quat.log.r_1 q
      ∧ SO3Quat.log.r_2 (-q) = SO3Quat.log.r_2 q := by
  -- the program normalises and then passes to the representative with non-negative scalar part `c`
  have flip : ∀ {c : ℝ}, c ≠ 0 → ∀ (a : ℝ) (f : ℝ → ℝ),
      (if -c < 0 then - -a else -a) * f (if -c < 0 then - -c else -c)
        = (if c < 0 then -a else a) * f (if c < 0 then -c else c) := by
    intro c hc a f
    rcases lt_or_gt_of_ne hc with h | h
    · rw [if_pos h, if_pos h, if_neg (by linarith), if_neg (by linarith)]
    · rw [if_neg (not_lt.mpr h.le), if_neg (not_lt.mpr h.le), if_pos (by linarith), if_pos (by linarith), neg_neg,
        neg_neg]
  have hc := div_ne_zero h0 (Real.sqrt_pos.mpr hn).ne'
  refine ⟨?_, ?_, ?_⟩ <;> simp only [cas_defs, cas_real, Pi.neg_apply, neg_mul_neg, neg_div] <;>
    exact congrArg (2 * ·) (flip hc _ (fun c => Series.x_over_sin_x (Real.arccos c)))

/-- the half-angle the quaternion log works with is in [0, π/2]: the rotation angle is ≤ π
    for EVERY quaternion (either sign) -/
theorem SO3Quat_log_half_angle (c : ℝ) :
    0 ≤ Real.arccos (if c < 0 then -c else c) ∧ Real.arccos (if c < 0 then -c else c) ≤ Real.pi / 2 := by
  constructor
  · exact Real.arccos_nonneg _
  · apply Real.arccos_le_pi_div_two.mpr
    split_ifs with h <;> linarith

/-! ## SO(3), quaternion form: exp and log are mutually inverse on unit quaternions (closed-form cells) -/

theorem half_angle {q : Fin 4 → ℝ} (hq : q 0 * q 0 + q 1 * q 1 + q 2 * q 2 + q 3 * q 3 = 1) (h0 : 0 ≤ q 0)
    (hpos : 0 < Real.arccos (q 0)) :
    Real.arccos (q 0) ≤ Real.pi / 2 ∧ Real.cos (Real.arccos (q 0)) = q 0 ∧ 0 < Real.sin (Real.arccos (q 0))
      ∧ Real.sin (Real.arccos (q 0)) ^ 2 = q 1 * q 1 + q 2 * q 2 + q 3 * q 3 := by
  have hq1 : q 0 ≤ 1 := by
    refine le_of_abs_le (abs_le_one_iff_mul_self_le_one.mpr ?_)
    linarith [mul_self_nonneg (q 1), mul_self_nonneg (q 2), mul_self_nonneg (q 3)]
  have hle : Real.arccos (q 0) ≤ Real.pi / 2 := Real.arccos_le_pi_div_two.mpr h0
  have hcos : Real.cos (Real.arccos (q 0)) = q 0 := Real.cos_arccos (by linarith) hq1
  refine ⟨hle, hcos, Real.sin_pos_of_pos_of_lt_pi hpos (by linarith [Real.pi_pos]), ?_⟩
  have := Real.sin_sq_add_cos_sq (Real.arccos (q 0))
  rw [hcos] at this
  linear_combination this - hq

theorem SO3Quat_log_closed (q : Fin 4 → ℝ) (hq : q 0 * q 0 + q 1 * q 1 + q 2 * q 2 + q 3 * q 3 = 1) (h0 : 0 ≤ q 0)
    (hc1 : eps ≤ Real.arccos (q 0)) :
    SO3Quat.log.r_vec q = ![2 * (q 1 * (Real.arccos (q 0) / Real.sin (Real.arccos (q 0)))),
      2 * (q 2 * (Real.arccos (q 0) / Real.sin (Real.arccos (q 0)))),
      2 * (q 3 * (Real.arccos (q 0) / Real.sin (Real.arccos (q 0))))] := by
  simp only [cas_defs, cas_real, hq, Real.sqrt_one, div_one]
  simp only [if_neg (not_lt.mpr h0), x_over_sin_x_closed (hc1.trans (le_abs_self _))]

/-- the returned rotation vector is the principal one: its length is twice the half angle arccos |q₀| ≤ π -/
theorem SO3Quat_log_principal (q : Fin 4 → ℝ) (hq : q 0 * q 0 + q 1 * q 1 + q 2 * q 2 + q 3 * q 3 = 1) (h0 : 0 ≤ q 0)
    (hc1 : eps ≤ Real.arccos (q 0)) :
    nsq (SO3Quat.log.r_vec q) = (2 * Real.arccos (q 0)) ^ 2 ∧ 2 * Real.arccos (q 0) ≤ Real.pi := by
  obtain ⟨hle, -, hsin, hsin2⟩ := half_angle hq h0 (eps_pos.trans_le hc1)
  refine ⟨?_, by linarith⟩
  rw [SO3Quat_log_closed q hq h0 hc1]
  simp only [nsq, Matrix.cons_val_zero, Matrix.cons_val_one, Matrix.cons_val]
  field_simp
  linear_combination (-Real.arccos (q 0) ^ 2) * hsin2

/-- **exp ∘ log = id on unit quaternions** (scalar part ≥ 0, half angle h = arccos q₀ on the closed-form cells of the two
    series the code consumes: eps ≤ h and eps ≤ h²): the very same quaternion comes back -/
theorem SO3Quat_exp_log (q : Fin 4 → ℝ) (hq : q 0 * q 0 + q 1 * q 1 + q 2 * q 2 + q 3 * q 3 = 1) (h0 : 0 ≤ q 0)
    (hc1 : eps ≤ Real.arccos (q 0)) (hc2 : eps ≤ Real.arccos (q 0) ^ 2) :
    SO3Quat.exp.r_vec (SO3Quat.log.r_vec q) = q := by
  have hpos := eps_pos.trans_le hc1
  obtain ⟨-, hcos, hsin, -⟩ := half_angle hq h0 hpos
  obtain ⟨hn, -⟩ := SO3Quat_log_principal q hq h0 hc1
  have hθ : Real.sqrt (nsq (SO3Quat.log.r_vec q)) / 2 = Real.arccos (q 0) := by
    rw [hn, Real.sqrt_sq (by positivity)]; ring
  rw [C02.SO3Quat_exp_closed _ (by rw [C02.usq_eq, hn]; linarith), qexp, hθ, SO3Quat_log_closed q hq h0 hc1, sFun,
    if_neg hpos.ne']
  refine Eq.trans ?_ (FinVec.etaExpand_eq q)
  show _ = ![q 0, q 1, q 2, q 3]
  simp only [Matrix.cons_val_zero, Matrix.cons_val_one, Matrix.cons_val]
  lit_entries
  · exact hcos
  all_goals field_simp

/-- the cell of the squared-argument series lies inside the cell of the plain one: eps < 1 -/
theorem cell_of_sq_cell {x : ℝ} (hx : 0 ≤ x) (h : eps ≤ x ^ 2) : eps ≤ x := by
  nlinarith [eps_bounds.2, eps_pos]

/-- either sign: exp(log q) is q or −q, hence the same rotation — for every unit quaternion with half angle on the cell -/
theorem SO3Quat_exp_log_qmat (q : Fin 4 → ℝ) (hq : q 0 * q 0 + q 1 * q 1 + q 2 * q 2 + q 3 * q 3 = 1)
    (hc2 : eps ≤ Real.arccos |q 0| ^ 2) :
    qmat (SO3Quat.exp.r_vec (SO3Quat.log.r_vec q)) = qmat q := by
  have hc1 := cell_of_sq_cell (Real.arccos_nonneg _) hc2
  rcases lt_or_ge (q 0) 0 with hneg | hpos
  · obtain ⟨a, b, c⟩ := SO3Quat_log_neg q hneg.ne (by rw [hq]; norm_num)
    have hl : SO3Quat.log.r_vec (-q) = SO3Quat.log.r_vec q := by simp only [SO3Quat.log.r_vec, a, b, c]
    rw [abs_of_neg hneg] at hc1 hc2
    rw [← hl, SO3Quat_exp_log (-q) (by simpa only [Pi.neg_apply, neg_mul_neg] using hq) (neg_nonneg.mpr hneg.le)
      hc1 hc2, qmat_neg]
  · rw [abs_of_nonneg hpos] at hc1 hc2
    rw [SO3Quat_exp_log q hq hpos hc1 hc2]

/-- `SO3Quat_exp_log_qmat` with the hypotheses `q 0 ≠ 0` (at `q 0 = 0` the log is `π q_v` and exp returns `q`) and
    `hc1` (implied by `hc2`), which are not needed -/
theorem SO3Quat_exp_log_rotation (q : Fin 4 → ℝ) (hq : q 0 * q 0 + q 1 * q 1 + q 2 * q 2 + q 3 * q 3 = 1) (h0 : q 0 ≠ 0)
    (hc1 : eps ≤ Real.arccos |q 0|) (hc2 : eps ≤ Real.arccos |q 0| ^ 2) :
    qmat (SO3Quat.exp.r_vec (SO3Quat.log.r_vec q)) = qmat q :=
  SO3Quat_exp_log_qmat q hq hc2

/-- **log ∘ exp = id** for rotation vectors of length θ < π on the closed-form cells (eps ≤ θ/2, eps ≤ θ²/4) -/
theorem SO3Quat_log_exp (x : Fin 3 → ℝ) (hpi : Real.sqrt (nsq x) < Real.pi)
    (hc1 : eps ≤ Real.sqrt (nsq x) / 2) (hc2 : eps ≤ C02.usq x / 4) :
    SO3Quat.log.r_vec (SO3Quat.exp.r_vec x) = x := by
  have hpos := eps_pos.trans_le hc1
  have hn := qnormSq_qexp x
  unfold qnormSq at hn
  have h00 : qexp x 0 = Real.cos (Real.sqrt (nsq x) / 2) := rfl
  have harc : Real.arccos (qexp x 0) = Real.sqrt (nsq x) / 2 := by
    rw [h00]; exact Real.arccos_cos hpos.le (by linarith)
  have hsin : 0 < Real.sin (Real.sqrt (nsq x) / 2) := Real.sin_pos_of_pos_of_lt_pi hpos (by linarith)
  have hθ : Real.sqrt (nsq x) ≠ 0 := by linarith
  rw [C02.SO3Quat_exp_closed x hc2, SO3Quat_log_closed (qexp x) (by linear_combination hn)
    (h00 ▸ Real.cos_nonneg_of_mem_Icc ⟨by linarith, by linarith⟩) (harc ▸ hc1), harc]
  refine Eq.trans ?_ (FinVec.etaExpand_eq x)
  show _ = ![x 0, x 1, x 2]
  simp only [qexp, sFun, if_neg hpos.ne', Matrix.cons_val_zero, Matrix.cons_val_one, Matrix.cons_val]
  lit_entries <;> field_simp

/-- non-vacuity of the cell hypotheses: the 90° rotation about x, q = (√2/2, √2/2, 0, 0), half angle π/4 -/
example : eps ≤ Real.pi / 4 ∧ eps ≤ (Real.pi / 4) ^ 2 := by
  have h := Real.pi_gt_three
  have e := eps_bounds.2
  constructor
  · linarith
  · nlinarith

end C03
