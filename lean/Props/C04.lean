/-
  Props/C04.lean — Ad, ad and the bracket agree with matrix conjugation / commutators.
  Each read off Props/Spec (what the translated programs are) and the laws of Lib; antisymmetry and Jacobi come from
  the commutator (Lib/AdConj).  SE(2) is computed directly on 3×3 literals, and `ad_bracket` of se(3), se₂(3) compares
  the two programs entry by entry.
  Shapes: every `Ad`/`ad` below has type `Matrix (Fin k) (Fin k) ℝ` with k the algebra dimension — the statements
  do not type-check unless the translated operators are k×k.
-/
import Props.Spec.Planar
import Props.Spec.SE3
import Props.Spec.SE23
import Lib.AdConj
import Mathlib.Analysis.SpecialFunctions.Trigonometric.Basic

open Gen Rot

namespace C04

/-! ## algebras: ad_x y = [x,y],  [x,y]^ = x^ y^ − y^ x^,  antisymmetry, Jacobi -/

namespace so2
theorem ad_bracket (x y : ℝ) : so2.ad.M x * y = so2.bracket.r x y := by
  rw [Spec.so2_ad, Spec.so2_bracket, zero_mul]
theorem bracket_comm (x y : ℝ) :
    so2.toMatrix.M_mat (so2.bracket.r x y)
      = so2.toMatrix.M_mat x * so2.toMatrix.M_mat y - so2.toMatrix.M_mat y * so2.toMatrix.M_mat x := by
  rw [Spec.so2_toMatrix, Spec.so2_toMatrix, Spec.so2_toMatrix, Spec.so2_bracket]
  simp only [so2Hat, mat_lit]
  lit_entries <;> ring
end so2

namespace se2
theorem ad_bracket (x y : Fin 3 → ℝ) : (se2.ad.M_mat x).mulVec y = se2.bracket.r_vec x y := by
  rw [Spec.se2_ad, Spec.se2_bracket, mulVec_fin_three]
  simp only [se2Hat, Matrix.of_apply, Matrix.cons_val]
  lit_entries <;> ring
theorem bracket_comm (x y : Fin 3 → ℝ) :
    se2.toMatrix.M_mat (se2.bracket.r_vec x y)
      = se2.toMatrix.M_mat x * se2.toMatrix.M_mat y - se2.toMatrix.M_mat y * se2.toMatrix.M_mat x := by
  rw [Spec.se2_toMatrix, Spec.se2_toMatrix, Spec.se2_toMatrix, se2Hat_commutator, Spec.se2_bracket]
  simp only [Matrix.cons_val]
theorem bracket_antisymm (x y : Fin 3 → ℝ) : se2.bracket.r_vec x y = -se2.bracket.r_vec y x :=
  AdConj.antisymm_of_comm Spec.se2_toMatrix_linear Spec.se2_toMatrix_injective bracket_comm x y
theorem bracket_jacobi (x y z : Fin 3 → ℝ) :
    se2.bracket.r_vec x (se2.bracket.r_vec y z) + se2.bracket.r_vec y (se2.bracket.r_vec z x)
      + se2.bracket.r_vec z (se2.bracket.r_vec x y) = 0 :=
  AdConj.jacobi_of_comm Spec.se2_toMatrix_linear Spec.se2_toMatrix_injective bracket_comm x y z
end se2

namespace r2
theorem ad_bracket (x y : Fin 2 → ℝ) : (r2.ad.M_mat x).mulVec y = r2.bracket.r_vec x y := by
  rw [Spec.r2_ad, Spec.r2_bracket, Matrix.zero_mulVec]
theorem bracket_comm (x y : Fin 2 → ℝ) :
    r2.toMatrix.M_mat (r2.bracket.r_vec x y)
      = r2.toMatrix.M_mat x * r2.toMatrix.M_mat y - r2.toMatrix.M_mat y * r2.toMatrix.M_mat x := by
  rw [Spec.r2_toMatrix, Spec.r2_toMatrix, Spec.r2_toMatrix, Spec.r2_bracket, se2Hat_zero_mul, se2Hat_zero_mul,
    sub_zero]
  exact se2Hat_zero
end r2

namespace r3
theorem ad_bracket (x y : Fin 3 → ℝ) : (r3.ad.M_mat x).mulVec y = r3.bracket.r_vec x y := by
  rw [Spec.r3_ad, Spec.r3_bracket, Matrix.zero_mulVec]
theorem bracket_comm (x y : Fin 3 → ℝ) :
    r3.toMatrix.M_mat (r3.bracket.r_vec x y)
      = r3.toMatrix.M_mat x * r3.toMatrix.M_mat y - r3.toMatrix.M_mat y * r3.toMatrix.M_mat x := by
  rw [Spec.r3_toMatrix, Spec.r3_toMatrix, Spec.r3_toMatrix, Spec.r3_bracket, se3Hat_zero_mul, se3Hat_zero_mul,
    sub_zero, se3Hat_zero]
end r3

namespace so3
theorem ad_bracket (x y : Fin 3 → ℝ) : (so3.ad.M_mat x).mulVec y = so3.bracket.r_vec x y := by
  rw [Spec.so3_ad, Spec.so3_bracket, hat_mulVec_eq_cross]
theorem bracket_comm (x y : Fin 3 → ℝ) :
    so3.toMatrix.M_mat (so3.bracket.r_vec x y)
      = so3.toMatrix.M_mat x * so3.toMatrix.M_mat y - so3.toMatrix.M_mat y * so3.toMatrix.M_mat x := by
  rw [Spec.so3_toMatrix, Spec.so3_toMatrix, Spec.so3_toMatrix, Spec.so3_bracket, hat_commutator]
theorem bracket_antisymm (x y : Fin 3 → ℝ) : so3.bracket.r_vec x y = -so3.bracket.r_vec y x :=
  AdConj.antisymm_of_comm Spec.so3_toMatrix_linear Spec.so3_toMatrix_injective bracket_comm x y
theorem bracket_jacobi (x y z : Fin 3 → ℝ) :
    so3.bracket.r_vec x (so3.bracket.r_vec y z) + so3.bracket.r_vec y (so3.bracket.r_vec z x)
      + so3.bracket.r_vec z (so3.bracket.r_vec x y) = 0 :=
  AdConj.jacobi_of_comm Spec.so3_toMatrix_linear Spec.so3_toMatrix_injective bracket_comm x y z
end so3

namespace se3
theorem ad_bracket (x y : Fin 6 → ℝ) : (se3.ad.M_mat x).mulVec y = se3.bracket.r_vec x y := by
  funext i
  -- row i of the product and entry i of the bracket are picked out of their literals before any program is unfolded
  fin_cases i <;>
    simp only [se3.ad.M_mat, se3.bracket.r_vec, Matrix.mulVec, dotProduct, Fin.sum_univ_six, Matrix.of_apply,
      Matrix.cons_val, Fin.zero_eta, Fin.mk_one, Fin.reduceFinMk] <;>
    simp only [cas_defs, cas_real] <;> ring
theorem bracket_comm (x y : Fin 6 → ℝ) :
    se3.toMatrix.M_mat (se3.bracket.r_vec x y)
      = se3.toMatrix.M_mat x * se3.toMatrix.M_mat y - se3.toMatrix.M_mat y * se3.toMatrix.M_mat x := by
  rw [Spec.se3_toMatrix, Spec.se3_toMatrix, Spec.se3_toMatrix, se3Hat_commutator, Spec.se3_bracket_v,
    Spec.se3_bracket_w]
theorem bracket_antisymm (x y : Fin 6 → ℝ) : se3.bracket.r_vec x y = -se3.bracket.r_vec y x :=
  AdConj.antisymm_of_comm Spec.se3_toMatrix_linear Spec.se3_toMatrix_injective bracket_comm x y
theorem bracket_jacobi (x y z : Fin 6 → ℝ) :
    se3.bracket.r_vec x (se3.bracket.r_vec y z) + se3.bracket.r_vec y (se3.bracket.r_vec z x)
      + se3.bracket.r_vec z (se3.bracket.r_vec x y) = 0 :=
  AdConj.jacobi_of_comm Spec.se3_toMatrix_linear Spec.se3_toMatrix_injective bracket_comm x y z
end se3

namespace se23
theorem ad_bracket (x y : Fin 9 → ℝ) : (se23.ad.M_mat x).mulVec y = se23.bracket.r_vec x y := by
  funext i
  fin_cases i <;>
    simp only [se23.ad.M_mat, se23.bracket.r_vec, Matrix.mulVec, dotProduct, sum_univ_nine, Matrix.of_apply,
      Matrix.cons_val, Fin.zero_eta, Fin.mk_one, Fin.reduceFinMk] <;>
    simp only [cas_defs, cas_real] <;> ring
theorem bracket_comm (x y : Fin 9 → ℝ) :
    se23.toMatrix.M_mat (se23.bracket.r_vec x y)
      = se23.toMatrix.M_mat x * se23.toMatrix.M_mat y - se23.toMatrix.M_mat y * se23.toMatrix.M_mat x := by
  rw [Spec.se23_toMatrix, Spec.se23_toMatrix, Spec.se23_toMatrix, se23Hat_commutator, Spec.se23_bracket_v,
    Spec.se23_bracket_a, Spec.se23_bracket_w]
theorem bracket_antisymm (x y : Fin 9 → ℝ) : se23.bracket.r_vec x y = -se23.bracket.r_vec y x :=
  AdConj.antisymm_of_comm Spec.se23_toMatrix_linear Spec.se23_toMatrix_injective bracket_comm x y
theorem bracket_jacobi (x y z : Fin 9 → ℝ) :
    se23.bracket.r_vec x (se23.bracket.r_vec y z) + se23.bracket.r_vec y (se23.bracket.r_vec z x)
      + se23.bracket.r_vec z (se23.bracket.r_vec x y) = 0 :=
  AdConj.jacobi_of_comm Spec.se23_toMatrix_linear Spec.se23_toMatrix_injective bracket_comm x y z
end se23


/-! ## groups: (Ad_X y)^ M(X) = M(X) y^  (inverse-free form of  Ad_X y = vee(X y^ X⁻¹)),
    Ad_{XY} = Ad_X Ad_Y,  Ad_{X⁻¹} Ad_X = 1 -/

namespace SO2
theorem Ad_conj (a y : ℝ) :
    so2.toMatrix.M_mat (SO2.Ad.M a * y) * SO2.toMatrix.M_mat a
      = SO2.toMatrix.M_mat a * so2.toMatrix.M_mat y := by
  rw [Spec.SO2_Ad, one_mul, Spec.so2_toMatrix, Spec.SO2_toMatrix, so2Hat_mul_rot2]
theorem Ad_hom (a b : ℝ) : SO2.Ad.M (SO2.product.r a b) = SO2.Ad.M a * SO2.Ad.M b := by
  rw [Spec.SO2_Ad, Spec.SO2_Ad, Spec.SO2_Ad, mul_one]
theorem Ad_inv (a : ℝ) : SO2.Ad.M (SO2.inverse.r a) * SO2.Ad.M a = 1 := by
  rw [Spec.SO2_Ad, Spec.SO2_Ad, mul_one]
end SO2

namespace SE2
theorem Ad_conj (a y : Fin 3 → ℝ) :
    se2.toMatrix.M_mat ((SE2.Ad.M_mat a).mulVec y) * SE2.toMatrix.M_mat a
      = SE2.toMatrix.M_mat a * se2.toMatrix.M_mat y := by
  rw [Spec.se2_toMatrix, Spec.se2_toMatrix, Spec.SE2_toMatrix, Spec.SE2_Ad, mulVec_fin_three]
  simp only [se2Hat, se2Mat, rot2, mat_lit, Matrix.cons_val, Matrix.of_apply]
  lit_entries <;> ring
theorem Ad_hom (a b : Fin 3 → ℝ) :
    SE2.Ad.M_mat (SE2.product.r_vec a b) = SE2.Ad.M_mat a * SE2.Ad.M_mat b := by
  rw [Spec.SE2_Ad, Spec.SE2_Ad, Spec.SE2_Ad, Spec.SE2_product]
  simp only [se2Mat, rot2, mat_lit, Matrix.cons_val, Matrix.of_apply, Real.cos_add, Real.sin_add]
  lit_entries <;> ring
theorem Ad_inv (a : Fin 3 → ℝ) : SE2.Ad.M_mat (SE2.inverse.r_vec a) * SE2.Ad.M_mat a = 1 := by
  have h := Real.sin_sq_add_cos_sq (a 2)
  rw [Spec.SE2_Ad, Spec.SE2_Ad, Spec.SE2_inverse]
  simp only [se2Mat, rot2, mat_lit, Matrix.cons_val, Matrix.of_apply, Real.cos_neg, Real.sin_neg]
  lit_entries <;> linarith [h, congrArg (fun t => a 0 * t) h, congrArg (fun t => a 1 * t) h]
end SE2

namespace R3
theorem Ad_conj (a y : Fin 3 → ℝ) :
    r3.toMatrix.M_mat ((R3.Ad.M_mat a).mulVec y) * R3.toMatrix.M_mat a
      = R3.toMatrix.M_mat a * r3.toMatrix.M_mat y := by
  rw [Spec.R3_Ad, Matrix.one_mulVec, Spec.r3_toMatrix, Spec.R3_toMatrix, se3Hat_zero_conj]
theorem Ad_hom (a b : Fin 3 → ℝ) :
    R3.Ad.M_mat (R3.product.r_vec a b) = R3.Ad.M_mat a * R3.Ad.M_mat b := by
  rw [Spec.R3_Ad, Spec.R3_Ad, Spec.R3_Ad, mul_one]
end R3

namespace R2
theorem Ad_conj (a y : Fin 2 → ℝ) :
    r2.toMatrix.M_mat ((R2.Ad.M_mat a).mulVec y) * R2.toMatrix.M_mat a
      = R2.toMatrix.M_mat a * r2.toMatrix.M_mat y := by
  rw [Spec.R2_Ad, Matrix.one_mulVec, Spec.r2_toMatrix, Spec.R2_toMatrix, se2Hat_zero_conj]
theorem Ad_hom (a b : Fin 2 → ℝ) :
    R2.Ad.M_mat (R2.product.r_vec a b) = R2.Ad.M_mat a * R2.Ad.M_mat b := by
  rw [Spec.R2_Ad, Spec.R2_Ad, Spec.R2_Ad, mul_one]
end R2

namespace SO3Quat
theorem Ad_spec (a : Fin 4 → ℝ) : SO3Quat.Ad.M_mat a = qmat a := Spec.SO3Quat_Ad a
theorem toMatrix_spec (a : Fin 4 → ℝ) : SO3Quat.toMatrix.M_mat a = qmat a := Spec.SO3Quat_toMatrix a
theorem Ad_conj (a : Fin 4 → ℝ) (h : qnormSq a = 1) (y : Fin 3 → ℝ) :
    so3.toMatrix.M_mat ((SO3Quat.Ad.M_mat a).mulVec y) * SO3Quat.toMatrix.M_mat a
      = SO3Quat.toMatrix.M_mat a * so3.toMatrix.M_mat y := by
  rw [Spec.SO3Quat_Ad, Spec.SO3Quat_toMatrix, Spec.so3_toMatrix, Spec.so3_toMatrix]
  exact hatConj_qmat a h y
theorem Ad_hom (a b : Fin 4 → ℝ) :
    SO3Quat.Ad.M_mat (SO3Quat.product.r_vec a b) = SO3Quat.Ad.M_mat a * SO3Quat.Ad.M_mat b := by
  rw [Spec.SO3Quat_Ad, Spec.SO3Quat_Ad, Spec.SO3Quat_Ad, Spec.SO3Quat_product, qmat_mul]
theorem Ad_inv (a : Fin 4 → ℝ) (h : qnormSq a = 1) :
    SO3Quat.Ad.M_mat (SO3Quat.inverse.r_vec a) * SO3Quat.Ad.M_mat a = 1 := by
  rw [Spec.SO3Quat_Ad, Spec.SO3Quat_Ad, Spec.SO3Quat_inverse, qmat_conj_mul, h, one_pow, one_smul]
end SO3Quat

namespace SO3Mrp
theorem Ad_spec (a : Fin 3 → ℝ) : SO3Mrp.Ad.M_mat a = mrpMat a := by
  rw [Spec.SO3Mrp_Ad, Spec.SO3Mrp_toMatrix]
theorem Ad_conj (a y : Fin 3 → ℝ) :
    so3.toMatrix.M_mat ((SO3Mrp.Ad.M_mat a).mulVec y) * SO3Mrp.toMatrix.M_mat a
      = SO3Mrp.toMatrix.M_mat a * so3.toMatrix.M_mat y := by
  rw [Ad_spec, Spec.SO3Mrp_toMatrix, Spec.so3_toMatrix, Spec.so3_toMatrix]
  exact hatConj_mrpMat a y
theorem Ad_hom (a b : Fin 3 → ℝ) (h : mrpDen a b ≠ 0) :
    SO3Mrp.Ad.M_mat (SO3Mrp.product.r_vec a b) = SO3Mrp.Ad.M_mat a * SO3Mrp.Ad.M_mat b := by
  rw [Ad_spec, Ad_spec, Ad_spec, Spec.SO3Mrp_product, mrpMat_mul a b h]
theorem Ad_inv (a : Fin 3 → ℝ) :
    SO3Mrp.Ad.M_mat (SO3Mrp.inverse.r_vec a) * SO3Mrp.Ad.M_mat a = 1 := by
  rw [Ad_spec, Ad_spec, Spec.SO3Mrp_inverse, mrpMat_neg_mul]
end SO3Mrp

namespace SO3Dcm
theorem Ad_spec (a : Fin 9 → ℝ) : SO3Dcm.Ad.M_mat a = SO3Dcm.toMatrix.M_mat a := Spec.SO3Dcm_Ad a
/-- for every orthonormal DCM of determinant one -/
theorem Ad_conj (a : Fin 9 → ℝ)
    (ho : (SO3Dcm.toMatrix.M_mat a).transpose * SO3Dcm.toMatrix.M_mat a = 1)
    (hd : (SO3Dcm.toMatrix.M_mat a).det = 1) (y : Fin 3 → ℝ) :
    so3.toMatrix.M_mat ((SO3Dcm.Ad.M_mat a).mulVec y) * SO3Dcm.toMatrix.M_mat a
      = SO3Dcm.toMatrix.M_mat a * so3.toMatrix.M_mat y := by
  rw [Spec.SO3Dcm_Ad, Spec.so3_toMatrix, Spec.so3_toMatrix]
  exact hatConj_of_orthogonal _ ho hd y
theorem Ad_hom (a b : Fin 9 → ℝ) :
    SO3Dcm.Ad.M_mat (SO3Dcm.product.r_vec a b) = SO3Dcm.Ad.M_mat a * SO3Dcm.Ad.M_mat b := by
  rw [Spec.SO3Dcm_Ad, Spec.SO3Dcm_Ad, Spec.SO3Dcm_Ad, Spec.SO3Dcm_product]
end SO3Dcm

namespace SE3Quat
def rot (a : Fin 7 → ℝ) : Fin 4 → ℝ := ![a 3, a 4, a 5, a 6]
def tr (a : Fin 7 → ℝ) : Fin 3 → ℝ := ![a 0, a 1, a 2]
theorem Ad_conj (a : Fin 7 → ℝ) (h : qnormSq (rot a) = 1) (y : Fin 6 → ℝ) :
    se3.toMatrix.M_mat ((SE3Quat.Ad.M_mat a).mulVec y) * SE3Quat.toMatrix.M_mat a
      = SE3Quat.toMatrix.M_mat a * se3.toMatrix.M_mat y := by
  rw [Spec.se3_toMatrix, Spec.se3_toMatrix, Spec.SE3Quat_toMatrix, Spec.SE3Quat_Ad]
  exact se3AdMat_conj (hatConj_qmat _ h) _ y
theorem Ad_spec (a : Fin 7 → ℝ) : SE3Quat.Ad.M_mat a = se3AdMat (qmat (rot a)) (tr a) :=
  Spec.SE3Quat_Ad a
theorem Ad_hom (a b : Fin 7 → ℝ) (h : qnormSq (rot a) = 1) :
    SE3Quat.Ad.M_mat (SE3Quat.product.r_vec a b) = SE3Quat.Ad.M_mat a * SE3Quat.Ad.M_mat b := by
  rw [Spec.SE3Quat_Ad, Spec.SE3Quat_Ad, Spec.SE3Quat_Ad, se3AdMat_mul _ _ _ _ (hatConj_qmat ![a 3, a 4, a 5, a 6] h),
    Spec.SE3Quat_product_rot, Spec.SE3Quat_product_tr, qmat_mul]
end SE3Quat

namespace SE3Mrp
def rot (a : Fin 6 → ℝ) : Fin 3 → ℝ := ![a 3, a 4, a 5]
def tr (a : Fin 6 → ℝ) : Fin 3 → ℝ := ![a 0, a 1, a 2]
theorem Ad_conj (a : Fin 6 → ℝ) (y : Fin 6 → ℝ) :
    se3.toMatrix.M_mat ((SE3Mrp.Ad.M_mat a).mulVec y) * SE3Mrp.toMatrix.M_mat a
      = SE3Mrp.toMatrix.M_mat a * se3.toMatrix.M_mat y := by
  rw [Spec.se3_toMatrix, Spec.se3_toMatrix, Spec.SE3Mrp_toMatrix, Spec.SE3Mrp_Ad]
  exact se3AdMat_conj (hatConj_mrpMat _) _ y
theorem Ad_spec (a : Fin 6 → ℝ) : SE3Mrp.Ad.M_mat a = se3AdMat (mrpMat (rot a)) (tr a) :=
  Spec.SE3Mrp_Ad a
theorem Ad_hom (a b : Fin 6 → ℝ) (h : mrpDen (rot a) (rot b) ≠ 0) :
    SE3Mrp.Ad.M_mat (SE3Mrp.product.r_vec a b) = SE3Mrp.Ad.M_mat a * SE3Mrp.Ad.M_mat b := by
  rw [Spec.SE3Mrp_Ad, Spec.SE3Mrp_Ad, Spec.SE3Mrp_Ad, se3AdMat_mul _ _ _ _ (hatConj_mrpMat _),
    Spec.SE3Mrp_product_rot, Spec.SE3Mrp_product_tr, mrpMat_mul ![a 3, a 4, a 5] ![b 3, b 4, b 5] h]
end SE3Mrp

namespace SE23Mrp
theorem Ad_conj (a : Fin 9 → ℝ) (y : Fin 9 → ℝ) :
    se23.toMatrix.M_mat ((SE23Mrp.Ad.M_mat a).mulVec y) * SE23Mrp.toMatrix.M_mat a
      = SE23Mrp.toMatrix.M_mat a * se23.toMatrix.M_mat y := by
  rw [Spec.se23_toMatrix, Spec.se23_toMatrix, Spec.SE23Mrp_toMatrix, Spec.SE23Mrp_Ad]
  exact se23AdMat_conj (hatConj_mrpMat _) _ _ y
end SE23Mrp

namespace SE23Quat
def rot (a : Fin 10 → ℝ) : Fin 4 → ℝ := ![a 6, a 7, a 8, a 9]
theorem Ad_conj (a : Fin 10 → ℝ) (h : qnormSq (rot a) = 1) (y : Fin 9 → ℝ) :
    se23.toMatrix.M_mat ((SE23Quat.Ad.M_mat a).mulVec y) * SE23Quat.toMatrix.M_mat a
      = SE23Quat.toMatrix.M_mat a * se23.toMatrix.M_mat y := by
  rw [Spec.se23_toMatrix, Spec.se23_toMatrix, Spec.SE23Quat_toMatrix, Spec.SE23Quat_Ad]
  exact se23AdMat_conj (hatConj_qmat _ h) _ _ y
end SE23Quat

end C04
