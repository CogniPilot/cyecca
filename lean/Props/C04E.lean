/-
  Props/C04E.lean — Ad_{exp x} = exp(ad_x) (matrix exponential of the adjoint operator) for the rotation groups,
  composed from what the translated Ad / ad operators are (Props/Spec/SO3) and the exponential theorems (C02).  On so(3) the adjoint
  operator IS the hat matrix and Ad of a rotation IS its rotation matrix, so the statement reduces to C02's
  closed-form-cell theorems; zero rotation is covered separately.  SE(2), SE(3), SE_2(3): numeric search only.
-/
import Props.C02

open Gen Rot RotExp NormedSpace SeriesLemmas

namespace C04E

/-- quaternion form: Ad_{exp x} = exp(ad_x) for every angle on the closed-form cell (no upper bound on the angle) -/
theorem SO3Quat_Ad_exp (x : Fin 3 → ℝ) (h : eps ≤ C02.usq x / 4) :
    SO3Quat.Ad.M_mat (SO3Quat.exp.r_vec x) = exp (so3.ad.M_mat x) := by
  rw [Spec.SO3Quat_Ad, ← Spec.SO3Quat_toMatrix, (C02.SO3Quat_exp x h).2, Spec.so3_toMatrix, Spec.so3_ad]

theorem SO3Dcm_Ad_exp (x : Fin 3 → ℝ) (h : eps ≤ C02.usq x) :
    SO3Dcm.Ad.M_mat (SO3Dcm.exp.r_vec x) = exp (so3.ad.M_mat x) := by
  rw [Spec.SO3Dcm_Ad, C02.SO3Dcm_exp x h, Spec.so3_toMatrix, Spec.so3_ad]

/-- MRP form (shadow switch included), angles with cos(θ/4) ≠ 0 -/
theorem SO3Mrp_Ad_exp (x : Fin 3 → ℝ) (h : eps ≤ C02.usq x) (hc : Real.cos (Real.sqrt (nsq x) / 4) ≠ 0) :
    SO3Mrp.Ad.M_mat (SO3Mrp.exp.r_vec x) = exp (so3.ad.M_mat x) := by
  rw [Spec.SO3Mrp_Ad, (C02.SO3Mrp_exp x h hc).2, Spec.so3_toMatrix, Spec.so3_ad]

/-- zero rotation: Ad_{exp 0} = exp(ad_0) = 1 (DCM form) -/
theorem SO3Dcm_Ad_exp_zero : SO3Dcm.Ad.M_mat (SO3Dcm.exp.r_vec (0 : Fin 3 → ℝ)) = exp (so3.ad.M_mat 0) := by
  rw [Spec.SO3Dcm_Ad, C02.SO3Dcm_exp_zero, Spec.so3_toMatrix, Spec.so3_ad]

end C04E
