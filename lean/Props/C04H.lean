/-
  Props/C04H.lean — Ad is a homomorphism on SE_2(3) (quaternion and MRP form):
  Ad_{XY} = Ad_X Ad_Y and Ad_{X⁻¹} Ad_X = 1, for all valid X, Y.
  Derived (Lib/AdConj) from what C04 and C01 prove about the translated programs:
  (Ad_X y)^ M(X) = M(X) y^, M(XY) = M(X) M(Y), M(X⁻¹) M(X) = 1, and injectivity of the se_2(3) hat map.
  Same derivation for SE(3) Ad_{X⁻¹} Ad_X = 1; on SO(3) in DCM form Ad is the matrix itself and the law is C01's.
-/
import Props.C04
import Props.C01

open Gen Rot

namespace C04H

namespace SE23Quat
theorem product_unit (a b : Fin 10 → ℝ) (ha : qnormSq (C04.SE23Quat.rot a) = 1) (hb : qnormSq (C04.SE23Quat.rot b) = 1) :
    qnormSq (C04.SE23Quat.rot (SE23Quat.product.r_vec a b)) = 1 := by
  unfold C04.SE23Quat.rot at *
  rw [Spec.SE23Quat_product_rot, qnormSq_mul, ha, hb, mul_one]

/-- **Ad_{XY} = Ad_X Ad_Y on SE_2(3), quaternion form, all unit X, Y.** -/
theorem Ad_hom (a b : Fin 10 → ℝ) (ha : qnormSq (C04.SE23Quat.rot a) = 1) (hb : qnormSq (C04.SE23Quat.rot b) = 1) :
    SE23Quat.Ad.M_mat (SE23Quat.product.r_vec a b) = SE23Quat.Ad.M_mat a * SE23Quat.Ad.M_mat b := by
  have hab := product_unit a b ha hb
  refine AdConj.hom_of_conj (fun y => se23.toMatrix.M_mat y) Spec.se23_toMatrix_injective _ _ _
    (SE23Quat.toMatrix.M_mat a) (SE23Quat.toMatrix.M_mat b)
    (SE23Quat.toMatrix.M_mat (SE23Quat.inverse.r_vec (SE23Quat.product.r_vec a b))) ?_
    (C04.SE23Quat.Ad_conj a ha) (C04.SE23Quat.Ad_conj b hb) ?_
  · rw [← C01.SE23Quat.toMatrix_product]
    exact C01.SE23Quat.toMatrix_inverse_right _ hab
  · intro y
    rw [← C01.SE23Quat.toMatrix_product]
    exact C04.SE23Quat.Ad_conj _ hab y

theorem inverse_unit (a : Fin 10 → ℝ) (ha : qnormSq (C04.SE23Quat.rot a) = 1) :
    qnormSq (C04.SE23Quat.rot (SE23Quat.inverse.r_vec a)) = 1 := by
  unfold C04.SE23Quat.rot at *
  rw [Spec.SE23Quat_inverse_rot, qnormSq_qconj, ha]

/-- **Ad_{X⁻¹} Ad_X = 1 on SE_2(3), quaternion form.** -/
theorem Ad_inv (a : Fin 10 → ℝ) (ha : qnormSq (C04.SE23Quat.rot a) = 1) :
    SE23Quat.Ad.M_mat (SE23Quat.inverse.r_vec a) * SE23Quat.Ad.M_mat a = 1 :=
  AdConj.inv_of_conj (fun y => se23.toMatrix.M_mat y) Spec.se23_toMatrix_injective _ _ _ _
    (C01.SE23Quat.toMatrix_inverse_left a ha)
    (C04.SE23Quat.Ad_conj _ (inverse_unit a ha)) (C04.SE23Quat.Ad_conj a ha)
end SE23Quat

namespace SE23Mrp
/-- **Ad_{XY} = Ad_X Ad_Y on SE_2(3), MRP form** (away from the 360° singularity of the MRP product). -/
theorem Ad_hom (a b : Fin 9 → ℝ) (h : mrpDen (C01.SE23Mrp.rot a) (C01.SE23Mrp.rot b) ≠ 0) :
    SE23Mrp.Ad.M_mat (SE23Mrp.product.r_vec a b) = SE23Mrp.Ad.M_mat a * SE23Mrp.Ad.M_mat b := by
  refine AdConj.hom_of_conj (fun y => se23.toMatrix.M_mat y) Spec.se23_toMatrix_injective _ _ _
    (SE23Mrp.toMatrix.M_mat a) (SE23Mrp.toMatrix.M_mat b)
    (SE23Mrp.toMatrix.M_mat (SE23Mrp.inverse.r_vec (SE23Mrp.product.r_vec a b))) ?_
    (C04.SE23Mrp.Ad_conj a) (C04.SE23Mrp.Ad_conj b) ?_
  · rw [← C01.SE23Mrp.toMatrix_product a b h]
    exact C01.SE23Mrp.toMatrix_inverse_right _
  · intro y
    rw [← C01.SE23Mrp.toMatrix_product a b h]
    exact C04.SE23Mrp.Ad_conj _ y

/-- **Ad_{X⁻¹} Ad_X = 1 on SE_2(3), MRP form, every X.** -/
theorem Ad_inv (a : Fin 9 → ℝ) :
    SE23Mrp.Ad.M_mat (SE23Mrp.inverse.r_vec a) * SE23Mrp.Ad.M_mat a = 1 :=
  AdConj.inv_of_conj (fun y => se23.toMatrix.M_mat y) Spec.se23_toMatrix_injective _ _ _ _
    (C01.SE23Mrp.toMatrix_inverse_left a) (C04.SE23Mrp.Ad_conj _) (C04.SE23Mrp.Ad_conj a)
end SE23Mrp

namespace SE3Quat
theorem inverse_unit (a : Fin 7 → ℝ) (ha : qnormSq (C04.SE3Quat.rot a) = 1) :
    qnormSq (C04.SE3Quat.rot (SE3Quat.inverse.r_vec a)) = 1 := by
  unfold C04.SE3Quat.rot at *
  rw [Spec.SE3Quat_inverse_rot, qnormSq_qconj, ha]

/-- **Ad_{X⁻¹} Ad_X = 1 on SE(3), quaternion form, every unit X.** -/
theorem Ad_inv (a : Fin 7 → ℝ) (ha : qnormSq (C04.SE3Quat.rot a) = 1) :
    SE3Quat.Ad.M_mat (SE3Quat.inverse.r_vec a) * SE3Quat.Ad.M_mat a = 1 :=
  AdConj.inv_of_conj (fun y => se3.toMatrix.M_mat y) Spec.se3_toMatrix_injective _ _ _ _
    (C01.SE3Quat.toMatrix_inverse_left a ha)
    (C04.SE3Quat.Ad_conj _ (inverse_unit a ha)) (C04.SE3Quat.Ad_conj a ha)
end SE3Quat

namespace SE3Mrp
/-- **Ad_{X⁻¹} Ad_X = 1 on SE(3), MRP form, every X.** -/
theorem Ad_inv (a : Fin 6 → ℝ) :
    SE3Mrp.Ad.M_mat (SE3Mrp.inverse.r_vec a) * SE3Mrp.Ad.M_mat a = 1 :=
  AdConj.inv_of_conj (fun y => se3.toMatrix.M_mat y) Spec.se3_toMatrix_injective _ _ _ _
    (C01.SE3Mrp.toMatrix_inverse_left a) (C04.SE3Mrp.Ad_conj _) (C04.SE3Mrp.Ad_conj a)
end SE3Mrp

namespace SO3Dcm
/-- **Ad_{X⁻¹} Ad_X = 1 on SO(3), DCM form, every orthonormal X** (Ad is the matrix itself) -/
theorem Ad_inv (a : Fin 9 → ℝ) (h : (SO3Dcm.toMatrix.M_mat a).transpose * SO3Dcm.toMatrix.M_mat a = 1) :
    SO3Dcm.Ad.M_mat (SO3Dcm.inverse.r_vec a) * SO3Dcm.Ad.M_mat a = 1 := by
  rw [Spec.SO3Dcm_Ad, Spec.SO3Dcm_Ad]
  exact C01.SO3Dcm.toMatrix_inverse_left a h
end SO3Dcm

end C04H
