/-
  Props/C05.lean — Jacobians: algebraic relations, closed forms, series characterisation and
  attitude kinematics.  (The statement that Σ adⁿ/(n+1)! is the differential of exp on
  se(3)/se₂(3) is cited mathematics; see `coverage.missing_for_full_property` of the evidence file.)
-/
import GenM.SO3
import GenM.SE3
import GenM.SE23
import Lib.Kinematics
import Lib.JacSeries
import Props.SeriesLemmas
import Props.Spec.SO3

open Gen Rot RotExp SeriesLemmas

namespace C05

def usq (x : Fin 3 → ℝ) : ℝ := x 0 * x 0 + x 1 * x 1 + x 2 * x 2
theorem usq_eq (x : Fin 3 → ℝ) : usq x = nsq x := mul_self_eq_nsq x
theorem usq_neg (x : Fin 3 → ℝ) : usq (-x) = usq x := by simp only [usq, Pi.neg_apply, neg_mul_neg]

/-! ## J_l(x) = J_r(−x), for every x (all cells).
    cyecca writes each right Jacobian as the left one with the odd terms negated (`right_Q(x) = left_Q(−x)`, 1 − A x^ + B x^²
    for 1 + A x^ + B x^²) and calls the series on |x|²; CasADi has pushed the signs through, so entry by entry the two
    programs are the same polynomial in the coordinates and the series values. -/
theorem so3_jl_eq_jr_neg (x : Fin 3 → ℝ) : so3.left_jacobian.M_mat x = so3.right_jacobian.M_mat (-x) := by
  rw [so3.left_jacobian.M_mat, so3.right_jacobian.M_mat]
  lit_entries <;> simp only [cas_defs, cas_real, Pi.neg_apply, neg_mul_neg] <;> ring
theorem so3_jli_eq_jri_neg (x : Fin 3 → ℝ) : so3.left_jacobian_inv.M_mat x = so3.right_jacobian_inv.M_mat (-x) := by
  rw [so3.left_jacobian_inv.M_mat, so3.right_jacobian_inv.M_mat]
  lit_entries <;> simp only [cas_defs, cas_real, Pi.neg_apply, neg_mul_neg] <;> ring
theorem se3_jl_eq_jr_neg (x : Fin 6 → ℝ) : se3.left_jacobian.M_mat x = se3.right_jacobian.M_mat (-x) := by
  rw [se3.left_jacobian.M_mat, se3.right_jacobian.M_mat]
  lit_entries <;> simp only [cas_defs, cas_real, Pi.neg_apply, neg_mul_neg] <;> ring
theorem se23_jl_eq_jr_neg (x : Fin 9 → ℝ) : se23.left_jacobian.M_mat x = se23.right_jacobian.M_mat (-x) := by
  rw [se23.left_jacobian.M_mat, se23.right_jacobian.M_mat]
  lit_entries <;> simp only [cas_defs, cas_real, Pi.neg_apply, neg_mul_neg] <;> ring

/-! ## so(3): core forms 1·1 + a·x^ + b·x^² (`poly3 x 1 a b`) in the coefficient values; right from left by x ↦ −x -/
theorem so3_jl_core (x : Fin 3 → ℝ) :
    so3.left_jacobian.M_mat x
      = poly3 x 1 (SqSeries.one_minus_cos_over_x2 (usq x)) (SqSeries.x_minus_sin_over_x3 (usq x)) :=
  (Spec.so3_left_jacobian x).trans (poly3_one x _ _).symm
theorem so3_jr_core (x : Fin 3 → ℝ) :
    so3.right_jacobian.M_mat x
      = poly3 x 1 (-SqSeries.one_minus_cos_over_x2 (usq x)) (SqSeries.x_minus_sin_over_x3 (usq x)) := by
  rw [← neg_neg x, ← so3_jl_eq_jr_neg, neg_neg, so3_jl_core, usq_neg, poly3_neg]
theorem so3_jli_core (x : Fin 3 → ℝ) :
    so3.left_jacobian_inv.M_mat x = poly3 x 1 (-(1 / 2)) (SqSeries.jinv_coeff (usq x)) := by
  rw [poly3_entries, so3.left_jacobian_inv.M_mat]
  lit_entries <;> simp only [cas_defs, cas_real, usq] <;> ring
theorem so3_jri_core (x : Fin 3 → ℝ) :
    so3.right_jacobian_inv.M_mat x = poly3 x 1 (1 / 2) (SqSeries.jinv_coeff (usq x)) := by
  rw [← neg_neg x, ← so3_jli_eq_jri_neg, neg_neg, so3_jli_core, usq_neg, poly3_neg, neg_neg]

theorem so3_jl_closed (x : Fin 3 → ℝ) (h : eps ≤ usq x) :
    so3.left_jacobian.M_mat x = poly3 x 1 (cFun (Real.sqrt (nsq x))) (dFun (Real.sqrt (nsq x))) := by
  rw [so3_jl_core, sq_one_minus_cos_over_x2_closed h, sq_x_minus_sin_over_x3_closed h, usq_eq]

theorem so3_jr_closed (x : Fin 3 → ℝ) (h : eps ≤ usq x) :
    so3.right_jacobian.M_mat x = poly3 x 1 (-cFun (Real.sqrt (nsq x))) (dFun (Real.sqrt (nsq x))) := by
  rw [so3_jr_core, sq_one_minus_cos_over_x2_closed h, sq_x_minus_sin_over_x3_closed h, usq_eq]

/-- on the closed-form cell the code's J_l is the left-Jacobian series Σₙ (ad_x)ⁿ/(n+1)!  (ad_x = x^) -/
theorem so3_jl_series (x : Fin 3 → ℝ) (h : eps ≤ usq x) :
    HasSum (fun n : ℕ => (((n + 1).factorial : ℝ)⁻¹) • (so3.ad.M_mat x) ^ n) (so3.left_jacobian.M_mat x) := by
  rw [Spec.so3_ad, so3_jl_closed x h, poly3_one]
  let _ : NormedRing (Matrix (Fin 3) (Fin 3) ℝ) := Matrix.linftyOpNormedRing
  let _ : NormedAlgebra ℝ (Matrix (Fin 3) (Fin 3) ℝ) := Matrix.linftyOpNormedAlgebra
  exact hasSum_jacobian_series (hat_pow_three_sqrt x)

/-- with j the inverse-Jacobian coefficient, the x^ and x^² coefficients of (1 + c x^ + d x^²)(1 − ½ x^ + j x^²) vanish -/
theorem jl_jli_scalars (t : ℝ) (ht : t ≠ 0) (hc : Real.cos t ≠ 1) :
    cFun t - 1 / 2 - t ^ 2 * (cFun t * (1 / t ^ 2 + Real.sin t / (2 * t * (Real.cos t - 1))) - dFun t / 2) = 0
    ∧ (1 / t ^ 2 + Real.sin t / (2 * t * (Real.cos t - 1))) - cFun t / 2 + dFun t
        - t ^ 2 * (dFun t * (1 / t ^ 2 + Real.sin t / (2 * t * (Real.cos t - 1)))) = 0 := by
  have hc' : Real.cos t - 1 ≠ 0 := sub_ne_zero.mpr hc
  have hp := Real.sin_sq_add_cos_sq t
  unfold cFun dFun
  rw [if_neg ht, if_neg ht]
  constructor
  · field_simp; ring
  · field_simp; linear_combination (t) * hp

/-- J_l J_l⁻¹ = 1 on the closed-form cell, for every angle with cos θ ≠ 1 (all θ in [√eps, 2π)) -/
theorem so3_jl_jli (x : Fin 3 → ℝ) (h : eps ≤ usq x) (hc : Real.cos (Real.sqrt (nsq x)) ≠ 1) :
    so3.left_jacobian.M_mat x * so3.left_jacobian_inv.M_mat x = 1 := by
  have h' : eps ≤ nsq x := usq_eq x ▸ h
  have hu : 0 < nsq x := pos_of_cell h'
  have ht := sq_sqrt_nsq x
  obtain ⟨ha, hb⟩ := jl_jli_scalars (Real.sqrt (nsq x)) (Real.sqrt_pos.mpr hu).ne' hc
  have one : poly3 x 1 0 0 = 1 := by rw [poly3_one, zero_smul, zero_smul, add_zero, add_zero]
  rw [so3_jl_closed x h, so3_jli_core, usq_eq, jinv_coeff_closed _ h' hc, poly3_mul, ← one]
  generalize Real.sqrt (nsq x) = θ at ha hb ht ⊢
  rw [← ht]
  congr 1
  · ring
  · linear_combination ha
  · linear_combination hb

theorem so3_jr_jri (x : Fin 3 → ℝ) (h : eps ≤ usq x) (hc : Real.cos (Real.sqrt (nsq x)) ≠ 1) :
    so3.right_jacobian.M_mat x * so3.right_jacobian_inv.M_mat x = 1 := by
  rw [← neg_neg x, ← so3_jl_eq_jr_neg, ← so3_jli_eq_jri_neg]
  exact so3_jl_jli (-x) (by rwa [usq_neg]) (by rwa [nsq_neg])

/-! ## quaternion kinematic Jacobians: q' = J ω gives R' = [ω]× R (world frame) / R [ω]× (body frame),
    and the quaternion norm is preserved, for EVERY quaternion -/

/-- the code's `jacobian((qw * q).param / 2, w)` applied to ω -/
theorem SO3Quat_left_jacobian_spec (q : Fin 4 → ℝ) (w : Fin 3 → ℝ) :
    (SO3Quat.left_jacobian.M_mat q).mulVec w = (1 / 2 : ℝ) • qmul ![0, w 0, w 1, w 2] q := by
  funext k
  fin_cases k <;> simp [SO3Quat.left_jacobian.M_mat, Matrix.mulVec, dotProduct, Fin.sum_univ_succ, qmul] <;>
    simp only [cas_defs, cas_real] <;> ring
theorem SO3Quat_right_jacobian_spec (q : Fin 4 → ℝ) (w : Fin 3 → ℝ) :
    (SO3Quat.right_jacobian.M_mat q).mulVec w = (1 / 2 : ℝ) • qmul q ![0, w 0, w 1, w 2] := by
  funext k
  fin_cases k <;> simp [SO3Quat.right_jacobian.M_mat, Matrix.mulVec, dotProduct, Fin.sum_univ_succ, qmul] <;>
    simp only [cas_defs, cas_real] <;> ring

theorem SO3Quat_left_kinematics (q : Fin 4 → ℝ) (w : Fin 3 → ℝ) :
    dqmat q ((SO3Quat.left_jacobian.M_mat q).mulVec w) = hat w * qmat q := by
  rw [SO3Quat_left_jacobian_spec, dqmat_half_qmul_left]
theorem SO3Quat_right_kinematics (q : Fin 4 → ℝ) (w : Fin 3 → ℝ) :
    dqmat q ((SO3Quat.right_jacobian.M_mat q).mulVec w) = qmat q * hat w := by
  rw [SO3Quat_right_jacobian_spec, dqmat_half_qmul_right]
theorem SO3Quat_left_norm (q : Fin 4 → ℝ) (w : Fin 3 → ℝ) :
    q ⬝ᵥ (SO3Quat.left_jacobian.M_mat q).mulVec w = 0 := by
  rw [SO3Quat_left_jacobian_spec, dotProduct_half_qmul_left]
theorem SO3Quat_right_norm (q : Fin 4 → ℝ) (w : Fin 3 → ℝ) :
    q ⬝ᵥ (SO3Quat.right_jacobian.M_mat q).mulVec w = 0 := by
  rw [SO3Quat_right_jacobian_spec, dotProduct_half_qmul_right]

/-- along any differentiable quaternion curve driven by the world-frame Jacobian, R' = [ω]× R -/
theorem SO3Quat_left_curve (q : ℝ → Fin 4 → ℝ) (w : Fin 3 → ℝ) (t : ℝ)
    (h : ∀ i, HasDerivAt (fun s => q s i) ((SO3Quat.left_jacobian.M_mat (q t)).mulVec w i) t) (i j : Fin 3) :
    HasDerivAt (fun s => qmat (q s) i j) ((hat w * qmat (q t)) i j) t := by
  rw [← SO3Quat_left_kinematics]; exact hasDerivAt_qmat q _ t h i j
theorem SO3Quat_right_curve (q : ℝ → Fin 4 → ℝ) (w : Fin 3 → ℝ) (t : ℝ)
    (h : ∀ i, HasDerivAt (fun s => q s i) ((SO3Quat.right_jacobian.M_mat (q t)).mulVec w i) t) (i j : Fin 3) :
    HasDerivAt (fun s => qmat (q s) i j) ((qmat (q t) * hat w) i j) t := by
  rw [← SO3Quat_right_kinematics]; exact hasDerivAt_qmat q _ t h i j

/-! ## MRP body-frame Jacobian: r' = B(r) ω gives R' = R [ω]× along every differentiable curve -/

/-- the code's B = 0.25 ((1 − |r|²) 1 + 2 r^ + 2 r rᵀ) -/
theorem SO3Mrp_right_jacobian_spec (r : Fin 3 → ℝ) : SO3Mrp.right_jacobian.M_mat r = mrpB r := by
  rw [SO3Mrp.right_jacobian.M_mat, mrpB, Matrix.eta_fin_three (Matrix.vecMulVec r r)]
  simp only [hat, mat_lit, Matrix.vecMulVec_apply]
  lit_entries <;> simp only [cas_defs, cas_real, nsq] <;> ring

theorem SO3Mrp_right_curve (r : ℝ → Fin 3 → ℝ) (w : Fin 3 → ℝ) (t : ℝ)
    (h : ∀ i, HasDerivAt (fun s => r s i) ((SO3Mrp.right_jacobian.M_mat (r t)).mulVec w i) t) (i j : Fin 3) :
    HasDerivAt (fun s => SO3Mrp.toMatrix.M_mat (r s) i j) ((SO3Mrp.toMatrix.M_mat (r t) * hat w) i j) t := by
  simp only [Spec.SO3Mrp_toMatrix, SO3Mrp_right_jacobian_spec] at h ⊢
  rw [← dmrpMat_mrpB]; exact hasDerivAt_mrpMat r _ t h i j

theorem SO3Mrp_kinematics (r0 r1 r2 : ℝ → ℝ) (w : Fin 3 → ℝ) (t : ℝ)
    (h0 : HasDerivAt r0 ((SO3Mrp.right_jacobian.M_mat ![r0 t, r1 t, r2 t]).mulVec w 0) t)
    (h1 : HasDerivAt r1 ((SO3Mrp.right_jacobian.M_mat ![r0 t, r1 t, r2 t]).mulVec w 1) t)
    (h2 : HasDerivAt r2 ((SO3Mrp.right_jacobian.M_mat ![r0 t, r1 t, r2 t]).mulVec w 2) t) (i j : Fin 3) :
    HasDerivAt (fun s => SO3Mrp.toMatrix.M_mat ![r0 s, r1 s, r2 s] i j)
      ((SO3Mrp.toMatrix.M_mat ![r0 t, r1 t, r2 t] * hat w) i j) t :=
  SO3Mrp_right_curve (fun s => ![r0 s, r1 s, r2 s]) w t (fun k => by fin_cases k <;> assumption) i j

theorem SO3Mrp_kinematics_0_0 (r0 r1 r2 : ℝ → ℝ) (w : Fin 3 → ℝ) (t : ℝ)
    (h0 : HasDerivAt r0 ((SO3Mrp.right_jacobian.M_mat ![r0 t, r1 t, r2 t]).mulVec w 0) t)
    (h1 : HasDerivAt r1 ((SO3Mrp.right_jacobian.M_mat ![r0 t, r1 t, r2 t]).mulVec w 1) t)
    (h2 : HasDerivAt r2 ((SO3Mrp.right_jacobian.M_mat ![r0 t, r1 t, r2 t]).mulVec w 2) t) :
    HasDerivAt (fun s => SO3Mrp.toMatrix.M_0_0 ![r0 s, r1 s, r2 s])
      ((SO3Mrp.toMatrix.M_mat ![r0 t, r1 t, r2 t] * hat w) 0 0) t :=
  SO3Mrp_kinematics r0 r1 r2 w t h0 h1 h2 0 0

theorem SO3Mrp_kinematics_0_1 (r0 r1 r2 : ℝ → ℝ) (w : Fin 3 → ℝ) (t : ℝ)
    (h0 : HasDerivAt r0 ((SO3Mrp.right_jacobian.M_mat ![r0 t, r1 t, r2 t]).mulVec w 0) t)
    (h1 : HasDerivAt r1 ((SO3Mrp.right_jacobian.M_mat ![r0 t, r1 t, r2 t]).mulVec w 1) t)
    (h2 : HasDerivAt r2 ((SO3Mrp.right_jacobian.M_mat ![r0 t, r1 t, r2 t]).mulVec w 2) t) :
    HasDerivAt (fun s => SO3Mrp.toMatrix.M_0_1 ![r0 s, r1 s, r2 s])
      ((SO3Mrp.toMatrix.M_mat ![r0 t, r1 t, r2 t] * hat w) 0 1) t :=
  SO3Mrp_kinematics r0 r1 r2 w t h0 h1 h2 0 1

theorem SO3Mrp_kinematics_0_2 (r0 r1 r2 : ℝ → ℝ) (w : Fin 3 → ℝ) (t : ℝ)
    (h0 : HasDerivAt r0 ((SO3Mrp.right_jacobian.M_mat ![r0 t, r1 t, r2 t]).mulVec w 0) t)
    (h1 : HasDerivAt r1 ((SO3Mrp.right_jacobian.M_mat ![r0 t, r1 t, r2 t]).mulVec w 1) t)
    (h2 : HasDerivAt r2 ((SO3Mrp.right_jacobian.M_mat ![r0 t, r1 t, r2 t]).mulVec w 2) t) :
    HasDerivAt (fun s => SO3Mrp.toMatrix.M_0_2 ![r0 s, r1 s, r2 s])
      ((SO3Mrp.toMatrix.M_mat ![r0 t, r1 t, r2 t] * hat w) 0 2) t :=
  SO3Mrp_kinematics r0 r1 r2 w t h0 h1 h2 0 2

theorem SO3Mrp_kinematics_1_0 (r0 r1 r2 : ℝ → ℝ) (w : Fin 3 → ℝ) (t : ℝ)
    (h0 : HasDerivAt r0 ((SO3Mrp.right_jacobian.M_mat ![r0 t, r1 t, r2 t]).mulVec w 0) t)
    (h1 : HasDerivAt r1 ((SO3Mrp.right_jacobian.M_mat ![r0 t, r1 t, r2 t]).mulVec w 1) t)
    (h2 : HasDerivAt r2 ((SO3Mrp.right_jacobian.M_mat ![r0 t, r1 t, r2 t]).mulVec w 2) t) :
    HasDerivAt (fun s => SO3Mrp.toMatrix.M_1_0 ![r0 s, r1 s, r2 s])
      ((SO3Mrp.toMatrix.M_mat ![r0 t, r1 t, r2 t] * hat w) 1 0) t :=
  SO3Mrp_kinematics r0 r1 r2 w t h0 h1 h2 1 0

theorem SO3Mrp_kinematics_1_1 (r0 r1 r2 : ℝ → ℝ) (w : Fin 3 → ℝ) (t : ℝ)
    (h0 : HasDerivAt r0 ((SO3Mrp.right_jacobian.M_mat ![r0 t, r1 t, r2 t]).mulVec w 0) t)
    (h1 : HasDerivAt r1 ((SO3Mrp.right_jacobian.M_mat ![r0 t, r1 t, r2 t]).mulVec w 1) t)
    (h2 : HasDerivAt r2 ((SO3Mrp.right_jacobian.M_mat ![r0 t, r1 t, r2 t]).mulVec w 2) t) :
    HasDerivAt (fun s => SO3Mrp.toMatrix.M_1_1 ![r0 s, r1 s, r2 s])
      ((SO3Mrp.toMatrix.M_mat ![r0 t, r1 t, r2 t] * hat w) 1 1) t :=
  SO3Mrp_kinematics r0 r1 r2 w t h0 h1 h2 1 1

theorem SO3Mrp_kinematics_1_2 (r0 r1 r2 : ℝ → ℝ) (w : Fin 3 → ℝ) (t : ℝ)
    (h0 : HasDerivAt r0 ((SO3Mrp.right_jacobian.M_mat ![r0 t, r1 t, r2 t]).mulVec w 0) t)
    (h1 : HasDerivAt r1 ((SO3Mrp.right_jacobian.M_mat ![r0 t, r1 t, r2 t]).mulVec w 1) t)
    (h2 : HasDerivAt r2 ((SO3Mrp.right_jacobian.M_mat ![r0 t, r1 t, r2 t]).mulVec w 2) t) :
    HasDerivAt (fun s => SO3Mrp.toMatrix.M_1_2 ![r0 s, r1 s, r2 s])
      ((SO3Mrp.toMatrix.M_mat ![r0 t, r1 t, r2 t] * hat w) 1 2) t :=
  SO3Mrp_kinematics r0 r1 r2 w t h0 h1 h2 1 2

theorem SO3Mrp_kinematics_2_0 (r0 r1 r2 : ℝ → ℝ) (w : Fin 3 → ℝ) (t : ℝ)
    (h0 : HasDerivAt r0 ((SO3Mrp.right_jacobian.M_mat ![r0 t, r1 t, r2 t]).mulVec w 0) t)
    (h1 : HasDerivAt r1 ((SO3Mrp.right_jacobian.M_mat ![r0 t, r1 t, r2 t]).mulVec w 1) t)
    (h2 : HasDerivAt r2 ((SO3Mrp.right_jacobian.M_mat ![r0 t, r1 t, r2 t]).mulVec w 2) t) :
    HasDerivAt (fun s => SO3Mrp.toMatrix.M_2_0 ![r0 s, r1 s, r2 s])
      ((SO3Mrp.toMatrix.M_mat ![r0 t, r1 t, r2 t] * hat w) 2 0) t :=
  SO3Mrp_kinematics r0 r1 r2 w t h0 h1 h2 2 0

theorem SO3Mrp_kinematics_2_1 (r0 r1 r2 : ℝ → ℝ) (w : Fin 3 → ℝ) (t : ℝ)
    (h0 : HasDerivAt r0 ((SO3Mrp.right_jacobian.M_mat ![r0 t, r1 t, r2 t]).mulVec w 0) t)
    (h1 : HasDerivAt r1 ((SO3Mrp.right_jacobian.M_mat ![r0 t, r1 t, r2 t]).mulVec w 1) t)
    (h2 : HasDerivAt r2 ((SO3Mrp.right_jacobian.M_mat ![r0 t, r1 t, r2 t]).mulVec w 2) t) :
    HasDerivAt (fun s => SO3Mrp.toMatrix.M_2_1 ![r0 s, r1 s, r2 s])
      ((SO3Mrp.toMatrix.M_mat ![r0 t, r1 t, r2 t] * hat w) 2 1) t :=
  SO3Mrp_kinematics r0 r1 r2 w t h0 h1 h2 2 1

theorem SO3Mrp_kinematics_2_2 (r0 r1 r2 : ℝ → ℝ) (w : Fin 3 → ℝ) (t : ℝ)
    (h0 : HasDerivAt r0 ((SO3Mrp.right_jacobian.M_mat ![r0 t, r1 t, r2 t]).mulVec w 0) t)
    (h1 : HasDerivAt r1 ((SO3Mrp.right_jacobian.M_mat ![r0 t, r1 t, r2 t]).mulVec w 1) t)
    (h2 : HasDerivAt r2 ((SO3Mrp.right_jacobian.M_mat ![r0 t, r1 t, r2 t]).mulVec w 2) t) :
    HasDerivAt (fun s => SO3Mrp.toMatrix.M_2_2 ![r0 s, r1 s, r2 s])
      ((SO3Mrp.toMatrix.M_mat ![r0 t, r1 t, r2 t] * hat w) 2 2) t :=
  SO3Mrp_kinematics r0 r1 r2 w t h0 h1 h2 2 2

end C05
