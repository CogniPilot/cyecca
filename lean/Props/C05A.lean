/-
  Props/C05A.lean — J_l(x) = Ad_{exp x} J_r(x) on so(3) (closed-form cell): the translated left / right Jacobians and the matrix
  exponential are all of the form x·1 + y·ω^ + z·ω^² (`poly3`, Lib/HatPoly), so the identity reduces to two scalar trigonometric
  identities; with C04E, Ad of the library's exp is that matrix exponential.
-/
import Props.C05
import Props.C04E

open Gen Rot RotExp NormedSpace SeriesLemmas

namespace C05A

/-- scalar identities behind J_l = exp(ω^) J_r -/
theorem jl_Ad_jr_scalars (t : ℝ) (ht : t ≠ 0) :
    -cFun t + sFun t - t ^ 2 * (sFun t * dFun t + cFun t * -cFun t) = cFun t
    ∧ dFun t + cFun t + sFun t * -cFun t - t ^ 2 * (cFun t * dFun t) = dFun t := by
  unfold sFun cFun dFun
  rw [if_neg ht, if_neg ht, if_neg ht]
  have h := Real.sin_sq_add_cos_sq t
  constructor
  · field_simp; linear_combination h
  · field_simp; ring

theorem so3_jl_eq_Ad_jr (x : Fin 3 → ℝ) (h : eps ≤ C05.usq x) :
    so3.left_jacobian.M_mat x = exp (hat x) * so3.right_jacobian.M_mat x := by
  have hpos : 0 < nsq x := C05.usq_eq x ▸ pos_of_cell h
  have h2 := sq_sqrt_nsq x
  obtain ⟨e1, e2⟩ := jl_Ad_jr_scalars _ (Real.sqrt_pos.mpr hpos).ne'
  rw [C05.so3_jl_closed x h, C05.so3_jr_closed x h, exp_hat, ← poly3_one, poly3_mul]
  generalize Real.sqrt (nsq x) = n at e1 e2 h2 ⊢
  rw [← h2]
  congr 1
  · ring
  · linear_combination (-1 : ℝ) * e1
  · linear_combination (-1 : ℝ) * e2

/-- in the library's own terms: J_l(x) = Ad(exp x) · J_r(x), quaternion form of the exponential -/
theorem so3_jl_eq_AdQuat_jr (x : Fin 3 → ℝ) (h : eps ≤ C05.usq x) (h4 : eps ≤ C02.usq x / 4) :
    so3.left_jacobian.M_mat x = SO3Quat.Ad.M_mat (SO3Quat.exp.r_vec x) * so3.right_jacobian.M_mat x := by
  rw [C04E.SO3Quat_Ad_exp x h4, Spec.so3_ad]
  exact so3_jl_eq_Ad_jr x h

end C05A
