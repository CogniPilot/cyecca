/-
  Props/C05B.lean — every so(3) Jacobian the library publishes fixes its own argument:
      J_l(x) x = x,  J_r(x) x = x,  J_l⁻¹(x) x = x,  J_r⁻¹(x) x = x      for EVERY x and every value of the series coefficients
  (Σ adⁿ/(n+1)! x = x because ad_x x = 0).  Pins the constant term of each translated Jacobian to the identity and its
  remaining terms to polynomials in [x]×.
-/
import Props.C05

open Gen Rot

namespace C05B

theorem so3_jl_fix (x : Fin 3 → ℝ) : (so3.left_jacobian.M_mat x).mulVec x = x := by
  rw [C05.so3_jl_core, poly3_mulVec_self, one_smul]
theorem so3_jr_fix (x : Fin 3 → ℝ) : (so3.right_jacobian.M_mat x).mulVec x = x := by
  rw [C05.so3_jr_core, poly3_mulVec_self, one_smul]
theorem so3_jli_fix (x : Fin 3 → ℝ) : (so3.left_jacobian_inv.M_mat x).mulVec x = x := by
  rw [C05.so3_jli_core, poly3_mulVec_self, one_smul]
theorem so3_jri_fix (x : Fin 3 → ℝ) : (so3.right_jacobian_inv.M_mat x).mulVec x = x := by
  rw [C05.so3_jri_core, poly3_mulVec_self, one_smul]

end C05B
