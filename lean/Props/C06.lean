/-
  Props/C06.lean — small-angle handling of the translated SERIES tables.

  For the four coefficients that drive exp and J_l (cos x, sin x/x, (1−cos x)/x², (x−sin x)/x³,
  squared-argument versions) and the (x²/2 + cos x − 1)/x⁴ of the strap-down position integral we prove, over ℝ: the switch is at eps ≈ 1e-3; on the Taylor cell
  0 ≤ u < eps the returned polynomial is within 1e-14 of the analytic coefficient (hence the jump
  at the switch is below that); on the closed-form cell it equals it exactly (SeriesLemmas).
  Floating-point round-off is NOT modelled here.
-/
import Cas.Real
import Gen.Series
import Lib.Tail
import Props.SeriesLemmas
import Props.C02

open Gen RotExp Rot SeriesLemmas Tail

namespace C06

/-- the switch threshold is the double nearest 1e-3 -/
theorem switch_value : |eps - 1 / 1000| ≤ 1 / 10 ^ 18 := by
  unfold eps; rw [abs_le]; constructor <;> norm_num

theorem taylor_branch {u : ℝ} (h0 : 0 ≤ u) (h : u < eps) : |u| < 1152921504606847 * (2:ℝ) ^ (-60:ℤ) := by
  rw [abs_of_nonneg h0]; exact h

/-- the Taylor cell `0 ≤ u < eps`: a degree-5 polynomial whose coefficients are within 1e-16 of
    `(−1)ᵏ/(2k+m)!` is within 1e-14 of the sum of the series (6·1e-16 for the coefficients, 2u⁶ for the tail) -/
theorem taylor_cell (m : ℕ) (c0 c1 c2 c3 c4 c5 : ℝ) {u F : ℝ} (h0 : 0 ≤ u) (h : u < eps)
    (hF : HasSum (aTerm m u) F)
    (hc : ∀ k : Fin 6, |![c0, c1, c2, c3, c4, c5] k - (-1) ^ (k : ℕ) / ((2 * k + m).factorial : ℝ)|
      ≤ 1 / 10 ^ 16) :
    |c0 + c1 * u + c2 * u ^ 2 + c3 * u ^ 3 + c4 * u ^ 4 + c5 * u ^ 5 - F| ≤ 1 / 10 ^ 14 := by
  have hu : u ≤ 1001 / 10 ^ 6 := by linarith [eps_bounds.2]
  have h6 : u ^ 6 ≤ 2 / 10 ^ 18 := (pow_le_pow_left₀ h0 hu 6).trans (by norm_num)
  have hf : u ^ 6 / ((2 * 6 + m).factorial : ℝ) ≤ u ^ 6 :=
    div_le_self (pow_nonneg h0 6) (by exact_mod_cast Nat.factorial_pos _)
  have hp : ∑ k : Fin 6, ![c0, c1, c2, c3, c4, c5] k * u ^ (k : ℕ)
      = c0 + c1 * u + c2 * u ^ 2 + c3 * u ^ 3 + c4 * u ^ 4 + c5 * u ^ 5 := by
    simp only [Fin.sum_univ_succ, Fin.sum_univ_zero, Matrix.cons_val_zero, Matrix.cons_val_succ, Fin.val_zero,
      Fin.val_succ]
    ring
  have := approx_bound m _ h0 (by linarith) hF hc
  rw [hp] at this
  push_cast at this
  linarith

theorem sin_x_over_x_taylor (u : ℝ) (h0 : 0 ≤ u) (h : u < eps) :
    |SqSeries.sin_x_over_x u - sFun (Real.sqrt u)| ≤ 1 / 10 ^ 14 := by
  have hT : SqSeries.sin_x_over_x u =
      1 + -6004799503160661 * 2 ^ (-55:ℤ) * u + 4803839602528529 * 2 ^ (-59:ℤ) * u ^ 2
      + -3660068268593165 * 2 ^ (-64:ℤ) * u ^ 3 + 1626697008263629 * 2 ^ (-69:ℤ) * u ^ 4
      + -1892883791434041 * 2 ^ (-76:ℤ) * u ^ 5 := by
    simp only [cas_series, cas_real]; rw [if_pos (taylor_branch h0 h)]
    ring
  rw [hT]
  refine taylor_cell 1 _ _ _ _ _ _ h0 h (hasSum_sFun_sqrt u h0) fun k => ?_
  fin_cases k <;> norm_num [Nat.factorial]

theorem one_minus_cos_over_x2_taylor (u : ℝ) (h0 : 0 ≤ u) (h : u < eps) :
    |SqSeries.one_minus_cos_over_x2 u - cFun (Real.sqrt u)| ≤ 1 / 10 ^ 14 := by
  have hT : SqSeries.one_minus_cos_over_x2 u =
      1 * 2 ^ (-1:ℤ) + -6004799503160661 * 2 ^ (-57:ℤ) * u + 6405119470038039 * 2 ^ (-62:ℤ) * u ^ 2
      + -3660068268593165 * 2 ^ (-67:ℤ) * u ^ 3 + 1301357606610903 * 2 ^ (-72:ℤ) * u ^ 4
      + -630961263811347 * 2 ^ (-78:ℤ) * u ^ 5 := by
    simp only [cas_series, cas_real]; rw [if_pos (taylor_branch h0 h)]
    ring
  rw [hT]
  refine taylor_cell 2 _ _ _ _ _ _ h0 h (hasSum_cFun_sqrt u h0) fun k => ?_
  fin_cases k <;> norm_num [Nat.factorial]

theorem x_minus_sin_over_x3_taylor (u : ℝ) (h0 : 0 ≤ u) (h : u < eps) :
    |SqSeries.x_minus_sin_over_x3 u - dFun (Real.sqrt u)| ≤ 1 / 10 ^ 14 := by
  have hT : SqSeries.x_minus_sin_over_x3 u =
      6004799503160661 * 2 ^ (-55:ℤ) + -4803839602528529 * 2 ^ (-59:ℤ) * u + 3660068268593165 * 2 ^ (-64:ℤ) * u ^ 2
      + -1626697008263629 * 2 ^ (-69:ℤ) * u ^ 3 + 1892883791434041 * 2 ^ (-76:ℤ) * u ^ 4
      + -6212541674450185 * 2 ^ (-85:ℤ) * u ^ 5 := by
    simp only [cas_series, cas_real]; rw [if_pos (taylor_branch h0 h)]
    ring
  rw [hT]
  refine taylor_cell 3 _ _ _ _ _ _ h0 h (hasSum_dFun_sqrt u h0) fun k => ?_
  fin_cases k <;> norm_num [Nat.factorial]

theorem half_x2_plus_cos_minus_one_over_x4_poly {u : ℝ} (h0 : 0 ≤ u) (h : u < eps) :
    SqSeries.half_x2_plus_cos_minus_one_over_x4 u =
      6004799503160661 * 2 ^ (-57:ℤ) + -6405119470038039 * 2 ^ (-62:ℤ) * u + 3660068268593165 * 2 ^ (-67:ℤ) * u ^ 2
      + -1301357606610903 * 2 ^ (-72:ℤ) * u ^ 3 + 630961263811347 * 2 ^ (-78:ℤ) * u ^ 4
      + -7100047627943069 * 2 ^ (-89:ℤ) * u ^ 5 := by
  simp only [cas_series, cas_real]; rw [if_pos (taylor_branch h0 h)]
  ring

/-- `half_x2_plus_cos_minus_one_over_x4` (squared argument; the ω^² coefficient of the strap-down position integral, C08):
    on the Taylor cell the polynomial is within 1e-14 of the analytic value (u/2 + cos √u − 1)/u² -/
theorem half_x2_plus_cos_minus_one_over_x4_taylor (u : ℝ) (h0 : 0 < u) (h : u < eps) :
    |SqSeries.half_x2_plus_cos_minus_one_over_x4 u - (u / 2 + Real.cos (Real.sqrt u) - 1) / u ^ 2| ≤ 1 / 10 ^ 14 := by
  rw [half_x2_plus_cos_minus_one_over_x4_poly h0.le h]
  refine taylor_cell 4 _ _ _ _ _ _ h0.le h (hasSum_aTerm4 u h0) fun k => ?_
  fin_cases k <;> norm_num [Nat.factorial]

/-- at exactly zero rotation the coefficient is the double nearest 1/24 (finite: no 0/0) -/
theorem half_x2_plus_cos_minus_one_over_x4_zero :
    |SqSeries.half_x2_plus_cos_minus_one_over_x4 (0:ℝ) - 1 / 24| ≤ 1 / 10 ^ 16 := by
  rw [half_x2_plus_cos_minus_one_over_x4_poly le_rfl eps_pos]
  norm_num

theorem cos_x_taylor (u : ℝ) (h0 : 0 ≤ u) (h : u < eps) :
    |SqSeries.cos_x u - Real.cos (Real.sqrt u)| ≤ 1 / 10 ^ 14 := by
  have hT : SqSeries.cos_x u =
      1 + -1 * 2 ^ (-1:ℤ) * u + 6004799503160661 * 2 ^ (-57:ℤ) * u ^ 2
      + -6405119470038039 * 2 ^ (-62:ℤ) * u ^ 3 + 3660068268593165 * 2 ^ (-67:ℤ) * u ^ 4
      + -1301357606610903 * 2 ^ (-72:ℤ) * u ^ 5 := by
    simp only [cas_series, cas_real]; rw [if_pos (taylor_branch h0 h)]
    ring
  rw [hT]
  refine taylor_cell 0 _ _ _ _ _ _ h0 h (hasSum_cos_sqrt u h0) fun k => ?_
  fin_cases k <;> norm_num [Nat.factorial]

/-- for 0 ≤ θ² < eps every entry of to_Matrix(exp x) is within 1e-14·(|x^|ᵢⱼ + |x^²|ᵢⱼ) of the exact
    matrix exponential; together with `C02.SO3Dcm_exp` (θ² ≥ eps, exact) this covers every angle -/
theorem SO3Dcm_exp_taylor_cell (x : Fin 3 → ℝ) (h : C02.usq x < eps) (i j : Fin 3) :
    |SO3Dcm.toMatrix.M_mat (SO3Dcm.exp.r_vec x) i j - NormedSpace.exp (so3.toMatrix.M_mat x) i j|
      ≤ 1 / 10 ^ 14 * (|hat x i j| + |(hat x ^ 2) i j|) := by
  have h0 : 0 ≤ C02.usq x := by rw [C02.usq_eq]; exact nsq_nonneg x
  have e1 := sin_x_over_x_taylor (C02.usq x) h0 h
  have e2 := one_minus_cos_over_x2_taylor (C02.usq x) h0 h
  rw [C02.SO3Dcm_exp_core, Spec.so3_toMatrix, exp_hat, ← C02.usq_eq]
  generalize SqSeries.sin_x_over_x (C02.usq x) = S, sFun (Real.sqrt (C02.usq x)) = s,
    SqSeries.one_minus_cos_over_x2 (C02.usq x) = C, cFun (Real.sqrt (C02.usq x)) = c at e1 e2 ⊢
  have : ((1 : Matrix (Fin 3) (Fin 3) ℝ) + S • hat x + C • hat x ^ 2) i j
      - ((1 : Matrix (Fin 3) (Fin 3) ℝ) + s • hat x + c • hat x ^ 2) i j
      = (S - s) * hat x i j + (C - c) * (hat x ^ 2) i j := by
    simp only [Matrix.add_apply, Matrix.smul_apply, smul_eq_mul]; ring
  rw [this]
  calc |(S - s) * hat x i j + (C - c) * (hat x ^ 2) i j|
      ≤ |S - s| * |hat x i j| + |C - c| * |(hat x ^ 2) i j| :=
        (abs_add_le _ _).trans_eq (by rw [abs_mul, abs_mul])
    _ ≤ 1 / 10 ^ 14 * |hat x i j| + 1 / 10 ^ 14 * |(hat x ^ 2) i j| :=
        add_le_add (mul_le_mul_of_nonneg_right e1 (abs_nonneg _)) (mul_le_mul_of_nonneg_right e2 (abs_nonneg _))
    _ = 1 / 10 ^ 14 * (|hat x i j| + |(hat x ^ 2) i j|) := by ring

end C06
