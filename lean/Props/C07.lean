/-
  Props/C07.lean — SO(3) representation conversions preserve the rotation and return
  valid parameters.  The conversion programs are unfolded here (`*_spec`).
-/
import GenM.SO3
import Lib.Rot
import Lib.SO3
import Props.Spec.SO3

open Gen Rot

namespace C07

/-! ## matrix → quaternion (Shepperd, all four branches), for EVERY proper rotation matrix -/

theorem SO3Quat_fromMatrix (R : Matrix (Fin 3) (Fin 3) ℝ) (h : IsRot R) :
    qnormSq (SO3Quat.fromMatrix.r_vec (fun i j => R i j)) = 1
      ∧ qmat (SO3Quat.fromMatrix.r_vec (fun i j => R i j)) = R := by
  have half : ∀ s : ℝ, 1 * 2 ^ (-1 : ℤ) * s = s / 2 := fun s => by ring
  have sq : ∀ {x : ℝ}, 0 < x → √x * √x = x ∧ √x ≠ 0 :=
    fun hx => ⟨Real.mul_self_sqrt hx.le, (Real.sqrt_pos.mpr hx).ne'⟩
  simp only [cas_defs, cas_real, half]
  -- the four candidates 1 ± R00 ± R11 ± R22 for s² sum to 4: the program takes the first if it exceeds 1, and
  -- otherwise the largest of the other three, which sum to at least 3
  split_ifs with h1 h2 h3
  · have hs := sq (show 0 < 1 + R 0 0 + R 1 1 + R 2 2 by linarith)
    exact shepperd1 h _ hs.1 hs.2
  · have hs := sq (show 0 < 1 + R 0 0 - R 1 1 - R 2 2 by linarith [h2.1, h2.2])
    exact shepperd2 h _ hs.1 hs.2
  · have hs := sq (show 0 < 1 - R 0 0 + R 1 1 - R 2 2 by rcases not_and_or.mp h2 with h2 | h2 <;> linarith)
    exact shepperd3 h _ hs.1 hs.2
  · have hs := sq (show 0 < 1 - R 0 0 - R 1 1 + R 2 2 by rcases not_and_or.mp h2 with h2 | h2 <;> linarith)
    exact shepperd4 h _ hs.1 hs.2

theorem SO3Quat_toMatrix_spec (a : Fin 4 → ℝ) : SO3Quat.toMatrix.M_mat a = qmat a := Spec.SO3Quat_toMatrix a

theorem SO3Dcm_fromMatrix_toMatrix (R : Matrix (Fin 3) (Fin 3) ℝ) :
    SO3Dcm.toMatrix.M_mat (SO3Dcm.fromMatrix.r_vec (fun i j => R i j)) = R := by
  simp only [cas_defs, cas_real, Matrix.cons_val, Matrix.cons_val_zero, Matrix.cons_val_one]
  exact (Matrix.eta_fin_three R).symm

/-! ## quaternion → DCM, MRP → DCM, MRP → quaternion (no side conditions) -/
theorem Dcm_from_Quat (q : Fin 4 → ℝ) :
    SO3Dcm.toMatrix.M_mat (SO3Dcm.from_Quat.r_vec q) = SO3Quat.toMatrix.M_mat q := by
  simp only [cas_defs, cas_real, Matrix.cons_val, Matrix.cons_val_zero, Matrix.cons_val_one]
theorem Dcm_from_Quat_valid (q : Fin 4 → ℝ) (h : qnormSq q = 1) :
    IsRot (SO3Dcm.toMatrix.M_mat (SO3Dcm.from_Quat.r_vec q)) := by
  rw [Dcm_from_Quat, SO3Quat_toMatrix_spec]; exact isRot_qmat q h
theorem Dcm_from_Mrp (r : Fin 3 → ℝ) :
    SO3Dcm.toMatrix.M_mat (SO3Dcm.from_Mrp.r_vec r) = SO3Mrp.toMatrix.M_mat r := by
  simp only [cas_defs, cas_real, Matrix.cons_val, Matrix.cons_val_zero, Matrix.cons_val_one]
theorem Dcm_from_Mrp_valid (r : Fin 3 → ℝ) :
    IsRot (SO3Dcm.toMatrix.M_mat (SO3Dcm.from_Mrp.r_vec r)) := by
  rw [Dcm_from_Mrp, Spec.SO3Mrp_toMatrix]; exact isRot_mrpMat r
theorem Quat_from_Mrp_spec (r : Fin 3 → ℝ) : SO3Quat.from_Mrp.r_vec r = mrpUnitQ r := by
  have h := (one_add_nsq_pos r).ne'
  simp only [cas_defs, cas_real, mul_self_eq_nsq, mrpUnitQ, mrpQ, mat_lit]
  lit_entries <;> field_simp
/-- MRP → quaternion: unit norm and the same rotation, for every MRP (inside or outside the unit ball) -/
theorem Quat_from_Mrp (r : Fin 3 → ℝ) :
    qnormSq (SO3Quat.from_Mrp.r_vec r) = 1
      ∧ SO3Quat.toMatrix.M_mat (SO3Quat.from_Mrp.r_vec r) = SO3Mrp.toMatrix.M_mat r := by
  rw [Quat_from_Mrp_spec, SO3Quat_toMatrix_spec, Spec.SO3Mrp_toMatrix, mrpMat_eq_qmat]
  exact ⟨qnormSq_mrpUnitQ r, rfl⟩

/-! ## the shadow switch never changes the rotation and returns norm ≤ 1 -/
theorem shadow_spec (r : Fin 3 → ℝ) :
    SO3Mrp.shadow.r_vec r = if 1 < nsq r then (fun i => -(r i / nsq r)) else r := by
  simp only [cas_defs, cas_real, mul_self_eq_nsq]
  split_ifs <;> funext i <;> fin_cases i <;> rfl
theorem shadow_same_rotation (r : Fin 3 → ℝ) :
    SO3Mrp.toMatrix.M_mat (SO3Mrp.shadow.r_vec r) = SO3Mrp.toMatrix.M_mat r := by
  rw [Spec.SO3Mrp_toMatrix, Spec.SO3Mrp_toMatrix, shadow_spec]
  split_ifs with h
  · exact mrpMat_shadow r (by linarith)
  · rfl
theorem shadow_norm_le (r : Fin 3 → ℝ) : nsq (SO3Mrp.shadow.r_vec r) ≤ 1 := by
  rw [shadow_spec]
  split_ifs with h
  · exact nsq_shadow_le r h
  · exact not_lt.mp h

/-! ## quaternion → MRP: for every unit quaternion of EITHER sign (including q0 = -1) -/

/-- the program passes to `-q` when `q 0 < 0`, converts, and applies the shadow switch (idle for a unit `q`,
    whose MRP lies in the unit ball) -/
theorem Mrp_from_Quat_spec (q : Fin 4 → ℝ) :
    SO3Mrp.from_Quat.r_vec q = SO3Mrp.shadow.r_vec (quatToMrp (if q 0 < 0 then -q else q)) := by
  simp only [cas_defs, cas_real, quatToMrp, ite_apply, Pi.neg_apply, Matrix.cons_val, Matrix.cons_val_zero,
    Matrix.cons_val_one]
theorem Mrp_from_Quat (q : Fin 4 → ℝ) (hq : qnormSq q = 1) :
    nsq (SO3Mrp.from_Quat.r_vec q) ≤ 1
      ∧ SO3Mrp.toMatrix.M_mat (SO3Mrp.from_Quat.r_vec q) = SO3Quat.toMatrix.M_mat q := by
  rw [Mrp_from_Quat_spec]
  refine ⟨shadow_norm_le _, ?_⟩
  rw [shadow_same_rotation, Spec.SO3Mrp_toMatrix, SO3Quat_toMatrix_spec]
  split_ifs with h0
  · rw [mrpMat_quatToMrp (-q) ((qnormSq_neg q).trans hq) (neg_nonneg.mpr h0.le), qmat_neg]
  · rw [mrpMat_quatToMrp q hq (not_lt.mp h0)]

/-! ## DCM → quaternion, DCM → MRP: for every orthonormal DCM of determinant one -/
theorem Quat_from_Dcm_spec (a : Fin 9 → ℝ) :
    SO3Quat.from_Dcm.r_vec a = SO3Quat.fromMatrix.r_vec (fun i j => SO3Dcm.toMatrix.M_mat a i j) := by
  simp only [cas_defs, cas_real, Matrix.cons_val, Matrix.cons_val_zero, Matrix.cons_val_one, Matrix.of_apply]
theorem Quat_from_Dcm (a : Fin 9 → ℝ) (h : IsRot (SO3Dcm.toMatrix.M_mat a)) :
    qnormSq (SO3Quat.from_Dcm.r_vec a) = 1
      ∧ SO3Quat.toMatrix.M_mat (SO3Quat.from_Dcm.r_vec a) = SO3Dcm.toMatrix.M_mat a := by
  rw [Quat_from_Dcm_spec, SO3Quat_toMatrix_spec]
  exact SO3Quat_fromMatrix _ h
theorem Mrp_from_Dcm_spec (a : Fin 9 → ℝ) :
    SO3Mrp.from_Dcm.r_vec a = SO3Mrp.from_Quat.r_vec (SO3Quat.from_Dcm.r_vec a) := by
  simp only [cas_defs, cas_real, Matrix.cons_val, Matrix.cons_val_zero, Matrix.cons_val_one]
theorem Mrp_from_Dcm (a : Fin 9 → ℝ) (h : IsRot (SO3Dcm.toMatrix.M_mat a)) :
    nsq (SO3Mrp.from_Dcm.r_vec a) ≤ 1
      ∧ SO3Mrp.toMatrix.M_mat (SO3Mrp.from_Dcm.r_vec a) = SO3Dcm.toMatrix.M_mat a := by
  obtain ⟨hu, hm⟩ := Quat_from_Dcm a h
  obtain ⟨hn, hm'⟩ := Mrp_from_Quat _ hu
  rw [Mrp_from_Dcm_spec]
  exact ⟨hn, hm'.trans hm⟩
theorem Mrp_fromMatrix_spec (R : Matrix (Fin 3) (Fin 3) ℝ) :
    SO3Mrp.fromMatrix.r_vec (fun i j => R i j)
      = SO3Mrp.from_Quat.r_vec (SO3Quat.fromMatrix.r_vec (fun i j => R i j)) := by
  simp only [cas_defs, cas_real, Matrix.cons_val, Matrix.cons_val_zero, Matrix.cons_val_one]
theorem Mrp_fromMatrix (R : Matrix (Fin 3) (Fin 3) ℝ) (h : IsRot R) :
    nsq (SO3Mrp.fromMatrix.r_vec (fun i j => R i j)) ≤ 1
      ∧ SO3Mrp.toMatrix.M_mat (SO3Mrp.fromMatrix.r_vec (fun i j => R i j)) = R := by
  obtain ⟨hu, hm⟩ := SO3Quat_fromMatrix R h
  obtain ⟨hn, hm'⟩ := Mrp_from_Quat _ hu
  rw [Mrp_fromMatrix_spec]
  exact ⟨hn, by rw [hm', SO3Quat_toMatrix_spec, hm]⟩

/-! ## Euler: pitch range; the Euler matrix is a proper rotation, hence Euler → quaternion / DCM -/
theorem Euler_fromMatrix_pitch (M : Fin 3 → Fin 3 → ℝ) :
    -(Real.pi / 2) ≤ SO3Euler.fromMatrix.r_1 M ∧ SO3Euler.fromMatrix.r_1 M ≤ Real.pi / 2 := by
  simp only [cas_defs, cas_real]
  split_ifs <;> exact ⟨Real.neg_pi_div_two_le_arcsin _, Real.arcsin_le_pi_div_two _⟩

theorem Euler_toMatrix_isRot (e : Fin 3 → ℝ) : IsRot (SO3Euler.toMatrix.M_mat e) := by
  have s0 : Real.sin (e 0) ^ 2 = 1 - Real.cos (e 0) ^ 2 := eq_sub_of_add_eq (Real.sin_sq_add_cos_sq _)
  have s1 : Real.sin (e 1) ^ 2 = 1 - Real.cos (e 1) ^ 2 := eq_sub_of_add_eq (Real.sin_sq_add_cos_sq _)
  have s2 : Real.sin (e 2) ^ 2 = 1 - Real.cos (e 2) ^ 2 := eq_sub_of_add_eq (Real.sin_sq_add_cos_sq _)
  -- unfolded before the entries are split, so that each entry goal indexes a literal of sines and cosines
  simp only [cas_defs, cas_real]
  constructor
  · mat_entries <;> simp [Matrix.mul_apply, Fin.sum_univ_succ] <;> ring_nf <;> simp only [s0, s1, s2] <;> ring
  · rw [Matrix.det_fin_three]
    simp only [Matrix.of_apply, Matrix.cons_val, Matrix.cons_val_zero, Matrix.cons_val_one]
    ring_nf; simp only [s0, s1, s2]; ring

theorem Quat_from_Euler_spec (e : Fin 3 → ℝ) :
    SO3Quat.from_Euler.r_vec e = SO3Quat.fromMatrix.r_vec (fun i j => SO3Euler.toMatrix.M_mat e i j) := by
  simp only [cas_defs, cas_real, Matrix.cons_val, Matrix.cons_val_zero, Matrix.cons_val_one, Matrix.of_apply]
  -- same branch conditions on both sides; CasADi has simplified the signs in the numerators of the left one
  lit_entries <;> split_ifs <;> ring
theorem Quat_from_Euler (e : Fin 3 → ℝ) :
    qnormSq (SO3Quat.from_Euler.r_vec e) = 1
      ∧ SO3Quat.toMatrix.M_mat (SO3Quat.from_Euler.r_vec e) = SO3Euler.toMatrix.M_mat e := by
  rw [Quat_from_Euler_spec, SO3Quat_toMatrix_spec]
  exact SO3Quat_fromMatrix _ (Euler_toMatrix_isRot e)
theorem Dcm_from_Euler_spec (e : Fin 3 → ℝ) :
    SO3Dcm.from_Euler.r_vec e = SO3Dcm.from_Quat.r_vec (SO3Quat.from_Euler.r_vec e) := by
  simp only [cas_defs, cas_real, Matrix.cons_val, Matrix.cons_val_zero, Matrix.cons_val_one]
theorem Dcm_from_Euler (e : Fin 3 → ℝ) :
    SO3Dcm.toMatrix.M_mat (SO3Dcm.from_Euler.r_vec e) = SO3Euler.toMatrix.M_mat e := by
  rw [Dcm_from_Euler_spec, Dcm_from_Quat]; exact (Quat_from_Euler e).2

example : IsRot (qmat ![0, 1, 0, 0]) := isRot_qmat _ (by simp [qnormSq])
example : qnormSq ![-1, 0, 0, 0] = 1 := by simp [qnormSq]

end C07
