/-
  Props/C08.lean — strap-down INS propagation on SE₂(3) is the exact flow of
      p' = v,   v' = R a − g e₃,   R' = R [ω]×.
  (i) core identities, for every input: the translated `strapdown_ins_propagate` returns the flow
      *form* with the series coefficient values the code computes;
  (ii) on the closed-form cell of those coefficients (|ω dt|² ≥ 4 eps) the output is exactly
      `Flow.pflow / vflow / Rflow` at t = dt, whose derivatives are proved in Lib/Flow to satisfy the
      differential equations with the right initial values — for every dt (no discretisation error).
-/
import GenM.Ins
import Lib.FlowUnique
import Props.SeriesLemmas

open Gen Rot RotExp Flow SeriesLemmas

namespace C08

def q0 (x0 : Fin 10 → ℝ) : Fin 4 → ℝ := ![x0 6, x0 7, x0 8, x0 9]
def p0 (x0 : Fin 10 → ℝ) : Fin 3 → ℝ := ![x0 0, x0 1, x0 2]
def v0 (x0 : Fin 10 → ℝ) : Fin 3 → ℝ := ![x0 3, x0 4, x0 5]
/-- θ² as the code computes it -/
def th2 (w : Fin 3 → ℝ) (dt : ℝ) : ℝ := dt * w 0 * (dt * w 0) + dt * w 1 * (dt * w 1) + dt * w 2 * (dt * w 2)
theorem th2_def (w : Fin 3 → ℝ) (dt : ℝ) :
    dt * w 0 * (dt * w 0) + dt * w 1 * (dt * w 1) + dt * w 2 * (dt * w 2) = th2 w dt := rfl

/-- position: the flow form with the code's coefficient values.  `SqSeries.cos_x 0` is the scalar part of the quaternion
    exponential of the gravity element (zero rotation) that `exp_mixed` multiplies on the left; CasADi keeps the call, and it
    equals 1 (`sq_cos_x_zero`) -/
theorem position_core (x0 : Fin 10 → ℝ) (a w : Fin 3 → ℝ) (g dt : ℝ) :
    ![rdd2.strapdown_ins_propagate.x1_0 x0 a w g dt, rdd2.strapdown_ins_propagate.x1_1 x0 a w g dt,
      rdd2.strapdown_ins_propagate.x1_2 x0 a w g dt]
      = pform (qmat (SqSeries.cos_x (0:ℝ) • q0 x0)) (SqSeries.cos_x (0:ℝ) ^ 2 • p0 x0) (SqSeries.cos_x (0:ℝ) ^ 2 • v0 x0) a w
          g dt
          (dt ^ 3 * SqSeries.x_minus_sin_over_x3 (th2 w dt))
          (dt ^ 4 * SqSeries.half_x2_plus_cos_minus_one_over_x4 (th2 w dt)) := by
  funext i
  fin_cases i <;>
    simp only [cas_defs, cas_real, th2_def, pform, qmat, q0, p0, v0, hat, Pi.add_apply, Pi.smul_apply, smul_eq_mul,
      Matrix.mulVec, dotProduct, Fin.sum_univ_three, Matrix.add_apply, Matrix.smul_apply, Matrix.one_apply,
      Matrix.mul_apply, Matrix.of_apply, Matrix.cons_val, Fin.reduceFinMk, Fin.reduceEq, if_true, if_false] <;>
    ring

theorem velocity_core (x0 : Fin 10 → ℝ) (a w : Fin 3 → ℝ) (g dt : ℝ) :
    ![rdd2.strapdown_ins_propagate.x1_3 x0 a w g dt, rdd2.strapdown_ins_propagate.x1_4 x0 a w g dt,
      rdd2.strapdown_ins_propagate.x1_5 x0 a w g dt]
      = vform (qmat (SqSeries.cos_x (0:ℝ) • q0 x0)) (SqSeries.cos_x (0:ℝ) ^ 2 • v0 x0) a w g dt
          (dt ^ 2 * SqSeries.one_minus_cos_over_x2 (th2 w dt))
          (dt ^ 3 * SqSeries.x_minus_sin_over_x3 (th2 w dt)) := by
  funext i
  fin_cases i <;>
    simp only [cas_defs, cas_real, th2_def, vform, qmat, q0, v0, hat, Pi.add_apply, Pi.smul_apply, smul_eq_mul,
      Matrix.mulVec, dotProduct, Fin.sum_univ_three, Matrix.add_apply, Matrix.smul_apply, Matrix.one_apply,
      Matrix.mul_apply, Matrix.of_apply, Matrix.cons_val, Fin.reduceFinMk, Fin.reduceEq, if_true, if_false] <;>
    ring

/-- attitude: q₁ = (cos_x(0)·q₀) ⊗ (quaternion exponential of ω dt, in coefficient values) -/
theorem attitude_core (x0 : Fin 10 → ℝ) (a w : Fin 3 → ℝ) (g dt : ℝ) :
    ![rdd2.strapdown_ins_propagate.x1_6 x0 a w g dt, rdd2.strapdown_ins_propagate.x1_7 x0 a w g dt,
      rdd2.strapdown_ins_propagate.x1_8 x0 a w g dt, rdd2.strapdown_ins_propagate.x1_9 x0 a w g dt]
      = qmul (SqSeries.cos_x (0:ℝ) • q0 x0)
          ![SqSeries.cos_x (th2 w dt / 4), SqSeries.sin_x_over_x (th2 w dt / 4) / 2 * (dt * w 0),
            SqSeries.sin_x_over_x (th2 w dt / 4) / 2 * (dt * w 1), SqSeries.sin_x_over_x (th2 w dt / 4) / 2 * (dt * w 2)] := by
  unfold qmul
  lit_entries <;> simp only [cas_defs, cas_real, th2_def, q0, Pi.smul_apply, smul_eq_mul, Matrix.cons_val]

theorem th2_eq (w : Fin 3 → ℝ) (dt : ℝ) : th2 w dt = nsq (fun i => dt * w i) :=
  mul_self_eq_nsq fun i => dt * w i

theorem th2_eq_mul (w : Fin 3 → ℝ) (dt : ℝ) : th2 w dt = dt ^ 2 * nsq w := by
  unfold th2 nsq; ring

theorem sqrt_th2 (w : Fin 3 → ℝ) (dt : ℝ) : Real.sqrt (th2 w dt) = |dt| * Real.sqrt (nsq w) := by
  rw [th2_eq]; exact sqrt_nsq_smul dt w

theorem step_rate_ne_zero {w : Fin 3 → ℝ} {dt : ℝ} (h : eps ≤ th2 w dt / 4) : dt ≠ 0 ∧ nsq w ≠ 0 := by
  have hpos : 0 < dt ^ 2 * nsq w := by rw [← th2_eq_mul]; linarith [eps_pos]
  exact ⟨(pow_ne_zero_iff two_ne_zero).mp (left_ne_zero_of_mul hpos.ne'), right_ne_zero_of_mul hpos.ne'⟩

theorem sqrt_nsq_ne_zero {w : Fin 3 → ℝ} {dt : ℝ} (h : eps ≤ th2 w dt / 4) : Real.sqrt (nsq w) ≠ 0 :=
  (Real.sqrt_ne_zero (nsq_nonneg w)).mpr (step_rate_ne_zero h).2

theorem attitude_closed (x0 : Fin 10 → ℝ) (a w : Fin 3 → ℝ) (g dt : ℝ) (h : eps ≤ th2 w dt / 4) :
    ![rdd2.strapdown_ins_propagate.x1_6 x0 a w g dt, rdd2.strapdown_ins_propagate.x1_7 x0 a w g dt,
      rdd2.strapdown_ins_propagate.x1_8 x0 a w g dt, rdd2.strapdown_ins_propagate.x1_9 x0 a w g dt]
      = qmul (q0 x0) (qexp (fun i => dt * w i)) := by
  rw [attitude_core, sq_cos_x_zero, one_smul, sq_cos_x_closed h, sq_sin_x_over_x_closed h, sqrt_quarter, th2_eq]
  rfl

/-- **exact flow** on the closed-form cell (|ω dt|² ≥ 4 eps), for every dt ≠ 0 of either sign -/
theorem exact_flow (x0 : Fin 10 → ℝ) (a w : Fin 3 → ℝ) (g dt : ℝ) (h : eps ≤ th2 w dt / 4) :
    ![rdd2.strapdown_ins_propagate.x1_0 x0 a w g dt, rdd2.strapdown_ins_propagate.x1_1 x0 a w g dt,
      rdd2.strapdown_ins_propagate.x1_2 x0 a w g dt] = pflow (qmat (q0 x0)) (p0 x0) (v0 x0) a w g dt
    ∧ ![rdd2.strapdown_ins_propagate.x1_3 x0 a w g dt, rdd2.strapdown_ins_propagate.x1_4 x0 a w g dt,
      rdd2.strapdown_ins_propagate.x1_5 x0 a w g dt] = vflow (qmat (q0 x0)) (v0 x0) a w g dt
    ∧ qmat ![rdd2.strapdown_ins_propagate.x1_6 x0 a w g dt, rdd2.strapdown_ins_propagate.x1_7 x0 a w g dt,
      rdd2.strapdown_ins_propagate.x1_8 x0 a w g dt, rdd2.strapdown_ins_propagate.x1_9 x0 a w g dt]
        = Rflow (qmat (q0 x0)) w dt
    ∧ qnormSq ![rdd2.strapdown_ins_propagate.x1_6 x0 a w g dt, rdd2.strapdown_ins_propagate.x1_7 x0 a w g dt,
      rdd2.strapdown_ins_propagate.x1_8 x0 a w g dt, rdd2.strapdown_ins_propagate.x1_9 x0 a w g dt]
        = qnormSq (q0 x0) := by
  have h1 : eps ≤ th2 w dt := by linarith [eps_pos]
  have hdt := (step_rate_ne_zero h).1
  have hn := sqrt_nsq_ne_zero h
  obtain ⟨-, ca, cb, cg⟩ := coeffs_of_abs (Real.sqrt (nsq w)) dt hn hdt
  refine ⟨?_, ?_, ?_, ?_⟩
  · rw [position_core, sq_cos_x_zero, pflow_eq, sq_x_minus_sin_over_x3_closed h1,
      sq_half_x2_plus_cos_minus_one_over_x4_closed h1, sqrt_th2, cb, cg, one_pow, one_smul, one_smul, one_smul]
  · rw [velocity_core, sq_cos_x_zero, vflow_eq, sq_one_minus_cos_over_x2_closed h1,
      sq_x_minus_sin_over_x3_closed h1, sqrt_th2, ca, cb, one_pow, one_smul, one_smul]
  · rw [attitude_closed x0 a w g dt h, qmat_mul, qmat_qexp, Rflow_eq_exp _ w hdt hn]
  · rw [attitude_closed x0 a w g dt h, qnormSq_mul, qnormSq_qexp, mul_one]

/-- the step dt = 0 is the identity (position, velocity; attitude up to the factor cos_x(0) = 1) -/
theorem dt_zero (x0 : Fin 10 → ℝ) (a w : Fin 3 → ℝ) (g : ℝ) (i : Fin 10) :
    rdd2.strapdown_ins_propagate.x1_vec x0 a w g 0 i = x0 i := by
  fin_cases i <;> simp only [rdd2.strapdown_ins_propagate.x1_vec, Matrix.cons_val, Fin.reduceFinMk] <;>
    simp only [cas_defs, cas_real, zero_mul, mul_zero, add_zero, zero_add, zero_div, sq_cos_x_zero,
      sq_sin_x_over_x_zero] <;>
    ring

/-- **composition**: propagating dt₁ and then dt₂ (same constant specific force and angular rate) equals propagating
    dt₁ + dt₂ — position and velocity exactly, attitude as a rotation — whenever the three steps are on the closed-form cell -/
theorem semigroup (x0 : Fin 10 → ℝ) (a w : Fin 3 → ℝ) (g dt1 dt2 : ℝ)
    (h1 : eps ≤ th2 w dt1 / 4) (h2 : eps ≤ th2 w dt2 / 4) (h12 : eps ≤ th2 w (dt1 + dt2) / 4) :
    let x1 := rdd2.strapdown_ins_propagate.x1_vec x0 a w g dt1
    let x2 := rdd2.strapdown_ins_propagate.x1_vec x1 a w g dt2
    let x12 := rdd2.strapdown_ins_propagate.x1_vec x0 a w g (dt1 + dt2)
    p0 x2 = p0 x12 ∧ v0 x2 = v0 x12 ∧ qmat (q0 x2) = qmat (q0 x12) := by
  intro x1 x2 x12
  obtain ⟨a1, b1, c1, -⟩ := exact_flow x0 a w g dt1 h1
  obtain ⟨a2, b2, c2, -⟩ := exact_flow x1 a w g dt2 h2
  obtain ⟨a3, b3, c3, -⟩ := exact_flow x0 a w g (dt1 + dt2) h12
  obtain ⟨sR, sv, sp⟩ := flow_semigroup (qmat (q0 x0)) (p0 x0) (v0 x0) a w g dt1 dt2 (step_rate_ne_zero h1).2
  have hp1 : p0 x1 = pflow (qmat (q0 x0)) (p0 x0) (v0 x0) a w g dt1 := a1
  have hv1 : v0 x1 = vflow (qmat (q0 x0)) (v0 x0) a w g dt1 := b1
  have hR1 : qmat (q0 x1) = Rflow (qmat (q0 x0)) w dt1 := c1
  refine ⟨?_, ?_, ?_⟩
  · show p0 x2 = p0 x12
    calc p0 x2 = pflow (qmat (q0 x1)) (p0 x1) (v0 x1) a w g dt2 := a2
      _ = pflow (qmat (q0 x0)) (p0 x0) (v0 x0) a w g (dt1 + dt2) := by rw [hp1, hv1, hR1, ← sp]
      _ = p0 x12 := a3.symm
  · show v0 x2 = v0 x12
    calc v0 x2 = vflow (qmat (q0 x1)) (v0 x1) a w g dt2 := b2
      _ = vflow (qmat (q0 x0)) (v0 x0) a w g (dt1 + dt2) := by rw [hv1, hR1, ← sv]
      _ = v0 x12 := b3.symm
  · show qmat (q0 x2) = qmat (q0 x12)
    calc qmat (q0 x2) = Rflow (qmat (q0 x1)) w dt2 := c2
      _ = Rflow (qmat (q0 x0)) w (dt1 + dt2) := by rw [hR1, ← sR]
      _ = qmat (q0 x12) := c3.symm

end C08
