/-
  Props/C08U.lean — the propagator returns THE solution of the IMU kinematics.
  For ANY differentiable curves p, v, R with  p' = v,  v' = R a − g e₃,  R' = R [ω]×  (constant a, ω, g) starting at the
  input state, the output of `rdd2.strapdown_ins_propagate` for the step dt is (p dt, v dt, R dt) — position and velocity
  exactly, attitude as the rotation of the returned quaternion — on the closed-form cell |ω dt|² ≥ 4 eps.
  Uses the uniqueness theorem of Lib/FlowUnique (no discretisation error, no other solution).
-/
import Props.C08
import Lib.FlowUnique

open Gen Rot RotExp Flow SeriesLemmas

namespace C08U

theorem propagate_is_the_solution (x0 : Fin 10 → ℝ) (a w : Fin 3 → ℝ) (g dt : ℝ) (h : eps ≤ C08.th2 w dt / 4)
    (p v : ℝ → Fin 3 → ℝ) (R : ℝ → Matrix (Fin 3) (Fin 3) ℝ)
    (hp : ∀ i t, HasDerivAt (fun s => p s i) (v t i) t)
    (hv : ∀ i t, HasDerivAt (fun s => v s i) (((R t).mulVec a) i + ![0, 0, -g] i) t)
    (hR : ∀ i j t, HasDerivAt (fun s => R s i j) ((R t * hat w) i j) t)
    (hp0 : p 0 = C08.p0 x0) (hv0 : v 0 = C08.v0 x0) (hR0 : R 0 = qmat (C08.q0 x0)) :
    ![rdd2.strapdown_ins_propagate.x1_0 x0 a w g dt, rdd2.strapdown_ins_propagate.x1_1 x0 a w g dt,
      rdd2.strapdown_ins_propagate.x1_2 x0 a w g dt] = p dt
    ∧ ![rdd2.strapdown_ins_propagate.x1_3 x0 a w g dt, rdd2.strapdown_ins_propagate.x1_4 x0 a w g dt,
      rdd2.strapdown_ins_propagate.x1_5 x0 a w g dt] = v dt
    ∧ qmat ![rdd2.strapdown_ins_propagate.x1_6 x0 a w g dt, rdd2.strapdown_ins_propagate.x1_7 x0 a w g dt,
      rdd2.strapdown_ins_propagate.x1_8 x0 a w g dt, rdd2.strapdown_ins_propagate.x1_9 x0 a w g dt] = R dt := by
  obtain ⟨e1, e2, e3, -⟩ := C08.exact_flow x0 a w g dt h
  obtain ⟨u1, u2, u3⟩ := flow_unique p v R (qmat (C08.q0 x0)) (C08.p0 x0) (C08.v0 x0) a w g
    (C08.sqrt_nsq_ne_zero h) hp hv hR hp0 hv0 hR0 dt
  exact ⟨e1.trans u1.symm, e2.trans u2.symm, e3.trans u3.symm⟩

end C08U
