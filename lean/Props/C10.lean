/-
  Props/C10.lean — filter numerics (cyecca/util.py): LDLᵀ / UDUᵀ factorizations, RK4, square-root
  covariance derivative and measurement update, on the translated instances.
-/
import GenM.Util
import Props.C10G
import Mathlib.Tactic.FieldSimp
import Mathlib.Tactic.Ring
import Mathlib.Tactic.FinCases
import Mathlib.Tactic.LinearCombination
import Mathlib.Logic.Equiv.Fin.Basic
import Lib.SqrtFilter

open Gen

namespace C10

/-- the symmetric matrix whose lower (resp. upper) triangle is that of `P`: the routines only read one triangle -/
def symL {n : ℕ} (P : Fin n → Fin n → ℝ) : Matrix (Fin n) (Fin n) ℝ := Matrix.of fun i j => if j ≤ i then P i j else P j i
def symU {n : ℕ} (P : Fin n → Fin n → ℝ) : Matrix (Fin n) (Fin n) ℝ := Matrix.of fun i j => if i ≤ j then P i j else P j i

/-! ### LDLᵀ: for non-zero pivots the factors reconstruct (the symmetric matrix of the lower triangle of) P; L is unit
    lower triangular and D diagonal.  The translated programs are the every-size model of C10G at n = 2, 3
    (`C10G.gen_ldlN_*`), so these are its theorems read as matrix identities. -/

open Finset in
theorem ldl_reconstructs_of_link {N : ℕ} (P : Fin N → Fin N → ℝ) (L D : Matrix (Fin N) (Fin N) ℝ)
    (hL : ∀ i j, L i j = C10G.Lf N (C10G.ext P) i j) (hD : ∀ j, D j j = C10G.Df N (C10G.ext P) j)
    (hoff : ∀ i j, i ≠ j → D i j = 0) (hp : ∀ j : Fin N, (j : ℕ) + 1 < N → D j j ≠ 0) :
    L * D * L.transpose = symL P := by
  have entry : ∀ i j : Fin N, (L * D * L.transpose) i j
      = ∑ k ∈ range N, C10G.Lf N (C10G.ext P) i k * C10G.Df N (C10G.ext P) k * C10G.Lf N (C10G.ext P) j k := by
    intro i j
    rw [Matrix.mul_apply, ← Fin.sum_univ_eq_sum_range fun k =>
      C10G.Lf N (C10G.ext P) i k * C10G.Df N (C10G.ext P) k * C10G.Lf N (C10G.ext P) j k]
    refine sum_congr rfl fun k _ => ?_
    rw [Matrix.mul_apply, sum_eq_single k (fun l _ hl => by rw [hoff l k hl, mul_zero]) (fun h => absurd (mem_univ k) h),
      Matrix.transpose_apply, hL, hL, hD]
  have low : ∀ i j : Fin N, j ≤ i → (L * D * L.transpose) i j = P i j := by
    intro i j hji
    rw [entry, C10G.reconstruct_tri N _ i j hji i.2 fun h => by rw [← hD]; exact hp j (by omega), C10G.ext_apply]
  ext i j
  by_cases h : j ≤ i
  · rw [low i j h]; exact (if_pos h).symm
  · rw [show symL P i j = P j i from if_neg h, ← low j i (le_of_not_ge h), entry, entry]
    exact sum_congr rfl fun k _ => by ring

theorem ldl2_shape (P : Fin 2 → Fin 2 → ℝ) :
    (∀ i, util.ldl2.L_mat P i i = 1) ∧ (∀ i j, i < j → util.ldl2.L_mat P i j = 0)
      ∧ (∀ i j, i ≠ j → util.ldl2.D_mat P i j = 0) := by
  refine ⟨fun i => ?_, fun i j h => ?_, fun i j h => ?_⟩
  · rw [C10G.gen_ldl2_L]; exact C10G.L_diag 2 _ i i.2
  · rw [C10G.gen_ldl2_L]; exact C10G.L_upper 2 _ i j h j.2
  · fin_cases i <;> fin_cases j <;> first | exact absurd rfl h | skip
    all_goals block_entry [util.ldl2.D_mat]; simp only [cas_defs, cas_real]
theorem ldl2_reconstructs (P : Fin 2 → Fin 2 → ℝ) (h0 : util.ldl2.D_0_0 P ≠ 0) :
    util.ldl2.L_mat P * util.ldl2.D_mat P * (util.ldl2.L_mat P).transpose = symL P := by
  refine ldl_reconstructs_of_link P _ _ (C10G.gen_ldl2_L P) (C10G.gen_ldl2_D P) (ldl2_shape P).2.2 fun j hj => ?_
  fin_cases j
  · exact h0
  · exact absurd hj (by decide)

theorem ldl3_shape (P : Fin 3 → Fin 3 → ℝ) :
    (∀ i, util.ldl3.L_mat P i i = 1) ∧ (∀ i j, i < j → util.ldl3.L_mat P i j = 0)
      ∧ (∀ i j, i ≠ j → util.ldl3.D_mat P i j = 0) := by
  refine ⟨fun i => ?_, fun i j h => ?_, fun i j h => ?_⟩
  · rw [C10G.gen_ldl3_L]; exact C10G.L_diag 3 _ i i.2
  · rw [C10G.gen_ldl3_L]; exact C10G.L_upper 3 _ i j h j.2
  · fin_cases i <;> fin_cases j <;> first | exact absurd rfl h | skip
    all_goals block_entry [util.ldl3.D_mat]; simp only [cas_defs, cas_real]
theorem ldl3_reconstructs (P : Fin 3 → Fin 3 → ℝ) (h0 : util.ldl3.D_0_0 P ≠ 0) (h1 : util.ldl3.D_1_1 P ≠ 0) :
    util.ldl3.L_mat P * util.ldl3.D_mat P * (util.ldl3.L_mat P).transpose = symL P := by
  refine ldl_reconstructs_of_link P _ _ (C10G.gen_ldl3_L P) (C10G.gen_ldl3_D P) (ldl3_shape P).2.2 fun j hj => ?_
  fin_cases j
  · exact h0
  · exact h1
  · exact absurd hj (by decide)

/-! ### UDUᵀ (no every-size model: checked entry by entry; the zero pattern is structural, those entries are literally 0) -/

theorem udu2_reconstructs (P : Fin 2 → Fin 2 → ℝ) (h1 : util.udu2.D_1_1 P ≠ 0) :
    util.udu2.U_mat P * util.udu2.D_mat P * (util.udu2.U_mat P).transpose = symU P := by
  simp only [cas_defs, cas_real] at h1
  ext i j
  fin_cases i <;> fin_cases j <;>
    block_entry [↓Matrix.mul_apply, Fin.sum_univ_two, util.udu2.U_mat, util.udu2.D_mat, symU] <;>
    simp only [cas_defs, cas_real] <;> field_simp <;> ring
theorem udu2_shape (P : Fin 2 → Fin 2 → ℝ) :
    (∀ i, util.udu2.U_mat P i i = 1) ∧ (∀ i j, j < i → util.udu2.U_mat P i j = 0)
      ∧ (∀ i j, i ≠ j → util.udu2.D_mat P i j = 0) := by
  refine ⟨fun i => ?_, fun i j h => ?_, fun i j h => ?_⟩
  · fin_cases i <;> block_entry [util.udu2.U_mat] <;> simp only [cas_defs, cas_real]
  · fin_cases i <;> fin_cases j <;> first | exact absurd h (by decide) | skip
    all_goals block_entry [util.udu2.U_mat]; simp only [cas_defs, cas_real]
  · fin_cases i <;> fin_cases j <;> first | exact absurd rfl h | skip
    all_goals block_entry [util.udu2.D_mat]; simp only [cas_defs, cas_real]

theorem udu3_reconstructs (P : Fin 3 → Fin 3 → ℝ) (h1 : util.udu3.D_1_1 P ≠ 0) (h2 : util.udu3.D_2_2 P ≠ 0) :
    util.udu3.U_mat P * util.udu3.D_mat P * (util.udu3.U_mat P).transpose = symU P := by
  simp only [cas_defs, cas_real] at h1 h2
  -- the pivot D₁₁ in the form `field_simp` asks for
  have h1a : P 2 2 * P 1 1 - P 1 2 ^ 2 ≠ 0 := by
    intro h; apply h1; field_simp; linarith
  have h1b : P 1 1 * P 2 2 - P 1 2 ^ 2 ≠ 0 := by
    intro h; apply h1a; linarith
  ext i j
  fin_cases i <;> fin_cases j <;>
    block_entry [↓Matrix.mul_apply, Fin.sum_univ_three, util.udu3.U_mat, util.udu3.D_mat, symU] <;>
    simp only [cas_defs, cas_real] <;> field_simp <;> ring
theorem udu3_shape (P : Fin 3 → Fin 3 → ℝ) :
    (∀ i, util.udu3.U_mat P i i = 1) ∧ (∀ i j, j < i → util.udu3.U_mat P i j = 0)
      ∧ (∀ i j, i ≠ j → util.udu3.D_mat P i j = 0) := by
  refine ⟨fun i => ?_, fun i j h => ?_, fun i j h => ?_⟩
  · fin_cases i <;> block_entry [util.udu3.U_mat] <;> simp only [cas_defs, cas_real]
  · fin_cases i <;> fin_cases j <;> first | exact absurd h (by decide) | skip
    all_goals block_entry [util.udu3.U_mat]; simp only [cas_defs, cas_real]
  · fin_cases i <;> fin_cases j <;> first | exact absurd rfl h | skip
    all_goals block_entry [util.udu3.D_mat]; simp only [cas_defs, cas_real]

/-- exact when the derivative is a cubic polynomial in time, for every t, h and coefficients -/
theorem rk4_cubic_exact (t y h : ℝ) (c : Fin 4 → ℝ) :
    util.rk4_cubic.y1 t y h c
      = y + (c 0 * ((t + h) - t) + c 1 * ((t + h) ^ 2 - t ^ 2) / 2 + c 2 * ((t + h) ^ 3 - t ^ 3) / 3
            + c 3 * ((t + h) ^ 4 - t ^ 4) / 4) := by
  simp only [cas_defs, cas_real]; ring
/-- on y' = λ y the step is the degree-4 Taylor polynomial of the exponential (order 4) -/
theorem rk4_linear (y h lam : ℝ) :
    util.rk4_linear.y1 y h lam
      = y * (1 + (lam * h) + (lam * h) ^ 2 / 2 + (lam * h) ^ 3 / 6 + (lam * h) ^ 4 / 24) := by
  simp only [cas_defs, cas_real]; ring
/-- consistency on an affine planar system y' = A y + b: y1 = y + h (A y + b) + O(h²); stated as the exact
    degree-4 expansion  Σ_{k=1..4} h^k A^{k-1}(A y + b)/k! -/
theorem rk4_affine2 (y : Fin 2 → ℝ) (h : ℝ) (A : Fin 2 → Fin 2 → ℝ) (b : Fin 2 → ℝ) :
    let f : Fin 2 → ℝ := fun i => A i 0 * y 0 + A i 1 * y 1 + b i
    let Af : Fin 2 → ℝ := fun i => A i 0 * f 0 + A i 1 * f 1
    let AAf : Fin 2 → ℝ := fun i => A i 0 * Af 0 + A i 1 * Af 1
    let AAAf : Fin 2 → ℝ := fun i => A i 0 * AAf 0 + A i 1 * AAf 1
    util.rk4_affine2.y1_0 y h A b = y 0 + h * f 0 + h ^ 2 / 2 * Af 0 + h ^ 3 / 6 * AAf 0 + h ^ 4 / 24 * AAAf 0
    ∧ util.rk4_affine2.y1_1 y h A b = y 1 + h * f 1 + h ^ 2 / 2 * Af 1 + h ^ 3 / 6 * AAf 1 + h ^ 4 / 24 * AAAf 1 := by
  intro f Af AAf AAAf
  constructor <;> simp only [cas_defs, cas_real, f, Af, AAf, AAAf] <;> ring

/-! ### square-root covariance derivative: lower triangular and W'Wᵀ + WW'ᵀ = FP + PFᵀ + Q (P = WWᵀ) -/
theorem sqrt_predict2 (W F Q : Fin 2 → Fin 2 → ℝ) (hq : Q 0 1 = Q 1 0) (h0 : W 0 0 ≠ 0) (h1 : W 1 1 ≠ 0) :
    let d00 := util.sqrt_predict2.Wdot_0_0 W F Q
    let d01 := util.sqrt_predict2.Wdot_0_1 W F Q
    let d10 := util.sqrt_predict2.Wdot_1_0 W F Q
    let d11 := util.sqrt_predict2.Wdot_1_1 W F Q
    let P00 := W 0 0 * W 0 0
    let P10 := W 1 0 * W 0 0
    let P11 := W 1 0 * W 1 0 + W 1 1 * W 1 1
    -- W' is lower triangular
    d01 = 0
    -- (W' Wᵀ + W W'ᵀ) = F P + P Fᵀ + Q, entry by entry (W = [[W00, 0],[W10, W11]])
    ∧ d00 * W 0 0 + W 0 0 * d00 = (F 0 0 * P00 + F 0 1 * P10) + (P00 * F 0 0 + P10 * F 0 1) + Q 0 0
    ∧ (d10 * W 0 0) + (W 1 0 * d00 + W 1 1 * d01) = (F 1 0 * P00 + F 1 1 * P10) + (P10 * F 0 0 + P11 * F 0 1) + Q 1 0
    ∧ (d10 * W 1 0 + d11 * W 1 1) + (W 1 0 * d10 + W 1 1 * d11)
        = (F 1 0 * P10 + F 1 1 * P11) + (P10 * F 1 0 + P11 * F 1 1) + Q 1 1 := by
  intro d00 d01 d10 d11 P00 P10 P11
  refine ⟨?_, ?_, ?_, ?_⟩ <;> simp only [d00, d01, d10, d11, P00, P10, P11, cas_defs, cas_real] <;> field_simp
  · ring1
  · ring1
  · linear_combination W 0 0 * hq
  · ring1

/-! ### square-root measurement update, n = 1, m = 1 (CasADi's symbolic QR inlined) -/
theorem sqrt_correct_1_1 (Rs H W : ℝ) (hR : Rs ≠ 0) :
    let P := W * W
    let S := H * P * H + Rs * Rs
    util.sqrt_correct_1_1.Ss Rs H W * util.sqrt_correct_1_1.Ss Rs H W = S
    ∧ util.sqrt_correct_1_1.K Rs H W * S = P * H
    ∧ util.sqrt_correct_1_1.Wp Rs H W * util.sqrt_correct_1_1.Wp Rs H W
        = (1 - util.sqrt_correct_1_1.K Rs H W * H) * P := by
  intro P S
  have hS : 0 < Rs * Rs + H * W * (H * W) := by
    have := mul_self_pos.mpr hR
    nlinarith [mul_self_nonneg (H * W)]
  have hs := Real.mul_self_sqrt hS.le
  have hsp : 0 < Real.sqrt (Rs * Rs + H * W * (H * W)) := Real.sqrt_pos.mpr hS
  have hne : Real.sqrt (Rs * Rs + H * W * (H * W)) ≠ 0 := hsp.ne'
  simp only [cas_defs, cas_real, P, S]
  generalize Real.sqrt (Rs * Rs + H * W * (H * W)) = s at *
  have h2 : s ^ 2 = Rs * Rs + H * W * (H * W) := by rw [pow_two]; exact hs
  refine ⟨?_, ?_, ?_⟩
  · linarith [hs]
  · field_simp
    rw [h2]; ring
  · rw [Real.mul_self_sqrt]
    · field_simp
      rw [h2]; ring
    · exact add_nonneg (mul_self_nonneg _) (mul_self_nonneg _)

/-! ### square-root measurement update, 3 states, 2 measurements, with `ca.qr` replaced by its contract
    (`Gen.util.sqrt_correct_qr_3_2`: the real routine, the one ca.qr call swapped for inputs qrQ, qrR and the matrix handed to it
    exposed as qr_arg).  Under QᵀQ = 1 and Q·R = qr_arg, with an invertible innovation factor:
    Ss Ssᵀ = H P Hᵀ + Rs Rsᵀ,  K S = P Hᵀ,  W⁺W⁺ᵀ = (1 − K H) P,  P − W⁺W⁺ᵀ ⪰ 0  — for EVERY Rs, H, W. -/
section sqrt_correct_qr
open Matrix
open Gen.util.sqrt_correct_qr_3_2

def lowerPart {k : ℕ} (W : Fin k → Fin k → ℝ) : Matrix (Fin k) (Fin k) ℝ := Matrix.of fun i j => if j ≤ i then W i j else 0
def upperPart {k : ℕ} (R : Fin k → Fin k → ℝ) : Matrix (Fin k) (Fin k) ℝ := Matrix.of fun i j => if i ≤ j then R i j else 0

variable (Rs : Fin 2 → Fin 2 → ℝ) (H : Fin 2 → Fin 3 → ℝ) (W : Fin 3 → Fin 3 → ℝ) (qrQ qrR : Fin 5 → Fin 5 → ℝ)

theorem sqrt_correct_qr_3_2 (hQ : (Matrix.of qrQ)ᵀ * Matrix.of qrQ = 1)
    (hQR : Matrix.of qrQ * upperPart qrR = qr_arg_mat Rs H W qrQ qrR) (h0 : qrR 0 0 ≠ 0) (h1 : qrR 1 1 ≠ 0) :
    let P := lowerPart W * (lowerPart W)ᵀ
    let Hm : Matrix (Fin 2) (Fin 3) ℝ := Matrix.of H
    let S := Hm * P * Hmᵀ + lowerPart Rs * (lowerPart Rs)ᵀ
    Ss_mat Rs H W qrQ qrR * (Ss_mat Rs H W qrQ qrR)ᵀ = S
    ∧ K_mat Rs H W qrQ qrR * S = P * Hmᵀ
    ∧ Wp_mat Rs H W qrQ qrR * (Wp_mat Rs H W qrQ qrR)ᵀ = (1 - K_mat Rs H W qrQ qrR * Hm) * P
    ∧ (P - Wp_mat Rs H W qrQ qrR * (Wp_mat Rs H W qrQ qrR)ᵀ).PosSemidef := by
  intro P Hm S
  have hA : ∀ (i : Fin 3) (j : Fin 2), qr_arg_mat Rs H W qrQ qrR (finSumFinEquiv (m := 2) (n := 3) (Sum.inl j)) (finSumFinEquiv (m := 2) (n := 3) (Sum.inr i)) = 0 := by
    intro i j
    fin_cases i <;> fin_cases j <;> block_entry [qr_arg_mat] <;> simp only [cas_defs, cas_real]
  obtain ⟨a, c, d⟩ := SqrtFilter.flat (M := Fin 2) (N := Fin 3) finSumFinEquiv _ _ _ hQ hQR hA
    fun i j => SqrtFilter.lowerLeft_eq_zero (upperPart qrR) (fun _ _ h => if_neg (not_le.2 h)) i j
  -- the blocks of qrRᵀ are the generated outputs Ss, W⁺ (and G, below), those of qr_argᵀ the inputs Rs, H W, W
  have eSs : (((upperPart qrR)ᵀ).submatrix finSumFinEquiv finSumFinEquiv : Matrix (Fin 2 ⊕ Fin 3) (Fin 2 ⊕ Fin 3) ℝ).toBlocks₁₁ = Ss_mat Rs H W qrQ qrR := by
    ext i j
    fin_cases i <;> fin_cases j <;> block_entry [upperPart, Ss_mat] <;> simp only [cas_defs, cas_real]
  have eWp : (((upperPart qrR)ᵀ).submatrix finSumFinEquiv finSumFinEquiv : Matrix (Fin 2 ⊕ Fin 3) (Fin 2 ⊕ Fin 3) ℝ).toBlocks₂₂ = Wp_mat Rs H W qrQ qrR := by
    ext i j
    fin_cases i <;> fin_cases j <;> block_entry [upperPart, Wp_mat] <;> simp only [cas_defs, cas_real]
  have eRs : (((qr_arg_mat Rs H W qrQ qrR)ᵀ).submatrix finSumFinEquiv finSumFinEquiv : Matrix (Fin 2 ⊕ Fin 3) (Fin 2 ⊕ Fin 3) ℝ).toBlocks₁₁ = lowerPart Rs := by
    ext i j
    fin_cases i <;> fin_cases j <;> block_entry [qr_arg_mat, lowerPart] <;> simp only [cas_defs, cas_real]
  have eW : (((qr_arg_mat Rs H W qrQ qrR)ᵀ).submatrix finSumFinEquiv finSumFinEquiv : Matrix (Fin 2 ⊕ Fin 3) (Fin 2 ⊕ Fin 3) ℝ).toBlocks₂₂ = lowerPart W := by
    ext i j
    fin_cases i <;> fin_cases j <;> block_entry [qr_arg_mat, lowerPart] <;> simp only [cas_defs, cas_real]
  have eC : (((qr_arg_mat Rs H W qrQ qrR)ᵀ).submatrix finSumFinEquiv finSumFinEquiv : Matrix (Fin 2 ⊕ Fin 3) (Fin 2 ⊕ Fin 3) ℝ).toBlocks₁₂ = Hm * lowerPart W := by
    ext i j
    fin_cases i <;> fin_cases j <;> block_entry [qr_arg_mat, lowerPart, Hm, ↓Matrix.mul_apply, Fin.sum_univ_three] <;>
      simp only [cas_defs, cas_real] <;> ring
  have hK : K_mat Rs H W qrQ qrR * Ss_mat Rs H W qrQ qrR
      = (((upperPart qrR)ᵀ).submatrix finSumFinEquiv finSumFinEquiv : Matrix (Fin 2 ⊕ Fin 3) (Fin 2 ⊕ Fin 3) ℝ).toBlocks₂₁ := by
    ext i j
    fin_cases i <;> fin_cases j <;> block_entry [upperPart, K_mat, Ss_mat, ↓Matrix.mul_apply, Fin.sum_univ_two] <;>
      simp only [cas_defs, cas_real] <;> field_simp <;> ring
  rw [eSs, eRs, eC] at a
  rw [eSs, eW, eC] at c
  rw [eWp, eW] at d
  obtain ⟨u1, u2, u3, _, u5⟩ := SqrtFilter.update_of_blocks (lowerPart Rs) Hm (lowerPart W) _ _ _ _ a c d hK
  exact ⟨u1, u2, u3, u5⟩
end sqrt_correct_qr

end C10
