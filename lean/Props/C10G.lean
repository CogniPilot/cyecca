/-
  Props/C10G.lean — LDLᵀ factorization for EVERY size n (hand model Model/Ldl.lean, proved below to be the translated
  programs `Gen.util.ldl2/3/4` at those sizes and tied to the real `cyecca.util.ldl_symmetric_decomposition` by the C10
  correspondence run, sizes 1..6):
    * L has a unit diagonal and is zero above it, D is diagonal (kept as its diagonal);
    * (L D Lᵀ)_{ij} = P_{ij} on the triangle the routine reads (j ≤ i < n), whenever the pivots
      D_0 … D_j are non-zero; for a symmetric P, on the whole matrix.
-/
import Model.Ldl
import Cas.Real
import GenM.Util
import Mathlib.Algebra.BigOperators.Intervals
import Mathlib.Algebra.BigOperators.Field
import Mathlib.Tactic.Ring
import Mathlib.Tactic.FieldSimp
import Mathlib.Tactic.Linarith
import Mathlib.Tactic.IntervalCases

open LdlModel Finset

namespace C10G

variable (n : ℕ) (P : ℕ → ℕ → ℝ)

theorem subLoop_eq (acc : ℝ) (f : ℕ → ℝ) (j : ℕ) : subLoop acc f j = acc - ∑ k ∈ range j, f k := by
  induction j with
  | zero => simp [subLoop]
  | succ j ih => simp [subLoop, cas_real, ih, sum_range_succ]; ring

/-- pivot computed in pass j from the state before it -/
noncomputable def piv (s : St ℝ) (j : ℕ) : ℝ := P j j - ∑ k ∈ range j, s.L j k * s.L j k * s.D k

theorem step_D (j : ℕ) (s : St ℝ) (c : ℕ) :
    (step n P j s).D c = if c = j then piv P s j else s.D c := by
  simp [step, piv, subLoop_eq, cas_real]

theorem step_L (j : ℕ) (s : St ℝ) (i c : ℕ) :
    (step n P j s).L i c =
      if c = j then
        (if i = j then 1
         else if j < i ∧ i < n then (P i j - ∑ k ∈ range j, s.L i k * s.L j k * s.D k) / piv P s j
         else s.L i c)
      else s.L i c := by
  simp [step, piv, subLoop_eq, cas_real]

/-- columns the outer loop has not reached yet are still zero -/
theorem run_zero (m c : ℕ) (h : m ≤ c) (i : ℕ) : (run n P m).L i c = 0 ∧ (run n P m).D c = 0 := by
  induction m with
  | zero => simp [run, cas_real]
  | succ m ih =>
    have hc : c ≠ m := by omega
    have := ih (by omega)
    simp [run, step_L, step_D, hc, this]

/-- a finished column is never touched again -/
theorem run_stable (m c : ℕ) (h : c < m) (i : ℕ) :
    (run n P m).L i c = (run n P (c + 1)).L i c ∧ (run n P m).D c = (run n P (c + 1)).D c := by
  induction m with
  | zero => omega
  | succ m ih =>
    by_cases hcm : c = m
    · subst hcm; exact ⟨rfl, rfl⟩
    · have := ih (by omega)
      simp [run, step_L, step_D, hcm] at this ⊢
      exact this

/-- the factors returned for an n × n matrix -/
noncomputable def Lf (i j : ℕ) : ℝ := (ldl n P).L i j
noncomputable def Df (j : ℕ) : ℝ := (ldl n P).D j

theorem final_col (j : ℕ) (hj : j < n) (i : ℕ) :
    Lf n P i j = (run n P (j + 1)).L i j ∧ Df n P j = (run n P (j + 1)).D j :=
  run_stable n P n j hj i

theorem before_col (j k : ℕ) (hk : k < j) (hj : j < n) (i : ℕ) :
    (run n P j).L i k = Lf n P i k ∧ (run n P j).D k = Df n P k := by
  have a := run_stable n P j k hk i
  have b := final_col n P k (by omega) i
  exact ⟨a.1.trans b.1.symm, a.2.trans b.2.symm⟩

/-- **unit diagonal** -/
theorem L_diag (j : ℕ) (hj : j < n) : Lf n P j j = 1 := by
  rw [(final_col n P j hj j).1]; simp [run, step_L]

/-- **zero above the diagonal** -/
theorem L_upper (i j : ℕ) (hij : i < j) (hj : j < n) : Lf n P i j = 0 := by
  rw [(final_col n P j hj i).1]
  have hne : i ≠ j := by omega
  have hnot : ¬ (j < i ∧ i < n) := by omega
  simp [run, step_L, hne, hnot, (run_zero n P j j le_rfl i).1]

/-- the pivot recursion in terms of the returned factors -/
theorem D_rec (j : ℕ) (hj : j < n) :
    Df n P j = P j j - ∑ k ∈ range j, Lf n P j k * Lf n P j k * Df n P k := by
  rw [(final_col n P j hj j).2]
  simp only [run, step_D, if_true, piv]
  congr 1
  refine sum_congr rfl fun k hk => ?_
  have := before_col n P j k (mem_range.mp hk) hj j
  rw [this.1, this.2]

/-- the column recursion in terms of the returned factors -/
theorem L_rec (i j : ℕ) (hji : j < i) (hi : i < n) :
    Lf n P i j = (P i j - ∑ k ∈ range j, Lf n P i k * Lf n P j k * Df n P k) / Df n P j := by
  have hj : j < n := by omega
  rw [(final_col n P j hj i).1, D_rec n P j hj]
  have hne : i ≠ j := by omega
  simp only [run, step_L, if_true, hne, if_false, hji, hi, and_self, piv]
  congr 1
  · congr 1
    refine sum_congr rfl fun k hk => ?_
    have a := before_col n P j k (mem_range.mp hk) hj i
    have b := before_col n P j k (mem_range.mp hk) hj j
    rw [a.1, b.1, a.2]
  · congr 1
    refine sum_congr rfl fun k hk => ?_
    have b := before_col n P j k (mem_range.mp hk) hj j
    rw [b.1, b.2]

/-- a diagonal entry of L D Lᵀ is the pivot recursion read backwards: no pivot has to be non-zero -/
theorem reconstruct_diag (j : ℕ) (hj : j < n) : ∑ k ∈ range (j + 1), Lf n P j k * Df n P k * Lf n P j k = P j j := by
  rw [sum_range_succ, L_diag n P j hj, D_rec n P j hj, mul_one, one_mul,
    sum_congr rfl fun k _ => mul_right_comm (Lf n P j k) (Df n P k) (Lf n P j k)]
  exact add_sub_cancel _ _

/-- **L D Lᵀ = P on the triangle the routine reads**, every size, given a non-zero pivot in column j. -/
theorem reconstruct_lower (i j : ℕ) (hji : j ≤ i) (hi : i < n) (hp : Df n P j ≠ 0) :
    ∑ k ∈ range (j + 1), Lf n P i k * Df n P k * Lf n P j k = P i j := by
  rcases Nat.eq_or_lt_of_le hji with h | h
  · subst h; exact reconstruct_diag n P j hi
  · rw [sum_range_succ, L_diag n P j (by omega), L_rec n P i j h hi, mul_one, div_mul_cancel₀ _ hp,
      sum_congr rfl fun k _ => mul_right_comm (Lf n P i k) (Df n P k) (Lf n P j k)]
    exact add_sub_cancel _ _

/-- the terms of (L D Lᵀ)_{ij} beyond column j vanish because L is lower triangular -/
theorem sum_truncate (i j : ℕ) (hj : j < n) :
    ∑ k ∈ range n, Lf n P i k * Df n P k * Lf n P j k = ∑ k ∈ range (j + 1), Lf n P i k * Df n P k * Lf n P j k := by
  refine (sum_subset (range_mono hj) fun k hk hk' => ?_).symm
  rw [L_upper n P j k (by simpa using hk') (mem_range.mp hk), mul_zero]

/-- … as the full sum of the matrix product; below the diagonal the pivot of column j must be non-zero -/
theorem reconstruct_tri (i j : ℕ) (hji : j ≤ i) (hi : i < n) (hp : j < i → Df n P j ≠ 0) :
    ∑ k ∈ range n, Lf n P i k * Df n P k * Lf n P j k = P i j := by
  rw [sum_truncate n P i j (by omega)]
  rcases Nat.eq_or_lt_of_le hji with h | h
  · subst h; exact reconstruct_diag n P j hi
  · exact reconstruct_lower n P i j hji hi (hp h)

/-- **(L D Lᵀ)_{ij} = P_{ij} for all i, j < n** when P is symmetric and all pivots are non-zero. -/
theorem reconstruct (hs : ∀ i j, P i j = P j i) (hp : ∀ j, j < n → Df n P j ≠ 0)
    (i j : ℕ) (hi : i < n) (hj : j < n) :
    ∑ k ∈ range n, Lf n P i k * Df n P k * Lf n P j k = P i j := by
  rcases le_total j i with h | h
  · exact reconstruct_tri n P i j h hi fun _ => hp j hj
  · rw [hs i j, ← reconstruct_tri n P j i h hj fun _ => hp i hi]
    exact sum_congr rfl fun k _ => by ring

/-- **the recursion determines the factors**: any `L'`, `D'` with a unit diagonal, zeros above it, and the pivot
    and column recursions below it are what the model returns -/
theorem rec_unique (L' : ℕ → ℕ → ℝ) (D' : ℕ → ℝ)
    (h1 : ∀ j, j < n → L' j j = 1) (h0 : ∀ i j, i < j → j < n → L' i j = 0)
    (hD : ∀ j, j < n → D' j = P j j - ∑ k ∈ range j, L' j k * L' j k * D' k)
    (hL : ∀ i j, j < i → i < n → L' i j = (P i j - ∑ k ∈ range j, L' i k * L' j k * D' k) / D' j)
    (i j : ℕ) (hi : i < n) (hj : j < n) : L' i j = Lf n P i j ∧ D' j = Df n P j := by
  have low : ∀ j, j < n → D' j = Df n P j ∧ ∀ i, j < i → i < n → L' i j = Lf n P i j := by
    intro j
    induction j using Nat.strong_induction_on with
    | _ j ih =>
      intro hj
      have hd : D' j = Df n P j := by
        rw [hD j hj, D_rec n P j hj]
        congr 1
        refine sum_congr rfl fun k hk => ?_
        have hk' := mem_range.mp hk
        obtain ⟨a, b⟩ := ih k hk' (by omega)
        rw [a, b j hk' hj]
      refine ⟨hd, fun i hji hi => ?_⟩
      rw [hL i j hji hi, L_rec n P i j hji hi, hd]
      congr 2
      refine sum_congr rfl fun k hk => ?_
      have hk' := mem_range.mp hk
      obtain ⟨a, b⟩ := ih k hk' (by omega)
      rw [a, b j hk' hj, b i (by omega) hi]
  refine ⟨?_, (low j hj).1⟩
  rcases lt_trichotomy j i with h | h | h
  · exact (low j hj).2 i h hi
  · rw [← h, h1 j hj, L_diag n P j hj]
  · rw [h0 i j h hj, L_upper n P i j h hj]

/-! ## the every-size model IS the translated program at the translated sizes
     (`Gen.util.ldlN` is regenerated from cyecca/util.py on every run) -/

/-- an N × N matrix of a translated program as the model's index function -/
def ext {N : ℕ} (P : Fin N → Fin N → ℝ) : ℕ → ℕ → ℝ :=
  fun i j => if h : i < N ∧ j < N then P ⟨i, h.1⟩ ⟨j, h.2⟩ else 0

theorem ext_apply {N : ℕ} (M : Fin N → Fin N → ℝ) (i j : Fin N) : ext M i j = M i j := by
  simp only [ext, i.2, j.2, and_self, dite_true, Fin.eta]

/-- one hypothesis of `rec_unique` at numeral indices, for the translated factors `L`, `D`: pick the entries out of the
    matrix literals (`↓`: before `simp` walks through the literal), then unfold the entry programs; the straight-line
    program repeats the recursion term for term, so both sides become the same expression -/
macro "ldl_entry " L:ident D:ident : tactic =>
  `(tactic| (
    simp only [sum_range_succ, sum_range_zero, ext, Nat.reduceLT, and_self, dite_true, Fin.reduceFinMk, Fin.zero_eta,
      Fin.mk_one, $L:ident, $D:ident, ↓Matrix.of_apply, ↓Matrix.cons_val]
    simp only [cas_defs, cas_real, zero_add, sub_zero, sub_add_eq_sub_sub]))

open Gen.util

theorem gen_ldl2 (P : Fin 2 → Fin 2 → ℝ) (i j : ℕ) (hi : i < 2) (hj : j < 2) :
    ext (ldl2.L_mat P) i j = Lf 2 (ext P) i j ∧ ext (ldl2.D_mat P) j j = Df 2 (ext P) j := by
  refine rec_unique 2 (ext P) (ext (ldl2.L_mat P)) (fun j => ext (ldl2.D_mat P) j j) ?_ ?_ ?_ ?_ i j hi hj
  · intro j hj; interval_cases j <;> ldl_entry ldl2.L_mat ldl2.D_mat
  · intro i j hij hj; interval_cases j <;> interval_cases i; ldl_entry ldl2.L_mat ldl2.D_mat
  · intro j hj; interval_cases j <;> ldl_entry ldl2.L_mat ldl2.D_mat
  · intro i j hji hi; interval_cases i <;> interval_cases j; ldl_entry ldl2.L_mat ldl2.D_mat
theorem gen_ldl3 (P : Fin 3 → Fin 3 → ℝ) (i j : ℕ) (hi : i < 3) (hj : j < 3) :
    ext (ldl3.L_mat P) i j = Lf 3 (ext P) i j ∧ ext (ldl3.D_mat P) j j = Df 3 (ext P) j := by
  refine rec_unique 3 (ext P) (ext (ldl3.L_mat P)) (fun j => ext (ldl3.D_mat P) j j) ?_ ?_ ?_ ?_ i j hi hj
  · intro j hj; interval_cases j <;> ldl_entry ldl3.L_mat ldl3.D_mat
  · intro i j hij hj; interval_cases j <;> interval_cases i <;> ldl_entry ldl3.L_mat ldl3.D_mat
  · intro j hj; interval_cases j <;> ldl_entry ldl3.L_mat ldl3.D_mat
  · intro i j hji hi; interval_cases i <;> interval_cases j <;> ldl_entry ldl3.L_mat ldl3.D_mat
theorem gen_ldl4 (P : Fin 4 → Fin 4 → ℝ) (i j : ℕ) (hi : i < 4) (hj : j < 4) :
    ext (ldl4.L_mat P) i j = Lf 4 (ext P) i j ∧ ext (ldl4.D_mat P) j j = Df 4 (ext P) j := by
  refine rec_unique 4 (ext P) (ext (ldl4.L_mat P)) (fun j => ext (ldl4.D_mat P) j j) ?_ ?_ ?_ ?_ i j hi hj
  · intro j hj; interval_cases j <;> ldl_entry ldl4.L_mat ldl4.D_mat
  · intro i j hij hj; interval_cases j <;> interval_cases i <;> ldl_entry ldl4.L_mat ldl4.D_mat
  · intro j hj; interval_cases j <;> ldl_entry ldl4.L_mat ldl4.D_mat
  · intro i j hji hi; interval_cases i <;> interval_cases j <;> ldl_entry ldl4.L_mat ldl4.D_mat

theorem gen_ldl2_L (P : Fin 2 → Fin 2 → ℝ) (i j : Fin 2) :
    Gen.util.ldl2.L_mat P i j = Lf 2 (ext P) i j := by
  rw [← ext_apply (ldl2.L_mat P)]; exact (gen_ldl2 P i j i.2 j.2).1
theorem gen_ldl2_D (P : Fin 2 → Fin 2 → ℝ) (j : Fin 2) :
    Gen.util.ldl2.D_mat P j j = Df 2 (ext P) j := by
  rw [← ext_apply (ldl2.D_mat P)]; exact (gen_ldl2 P j j j.2 j.2).2
theorem gen_ldl3_L (P : Fin 3 → Fin 3 → ℝ) (i j : Fin 3) :
    Gen.util.ldl3.L_mat P i j = Lf 3 (ext P) i j := by
  rw [← ext_apply (ldl3.L_mat P)]; exact (gen_ldl3 P i j i.2 j.2).1
theorem gen_ldl3_D (P : Fin 3 → Fin 3 → ℝ) (j : Fin 3) :
    Gen.util.ldl3.D_mat P j j = Df 3 (ext P) j := by
  rw [← ext_apply (ldl3.D_mat P)]; exact (gen_ldl3 P j j j.2 j.2).2
theorem gen_ldl4_L (P : Fin 4 → Fin 4 → ℝ) (i j : Fin 4) :
    Gen.util.ldl4.L_mat P i j = Lf 4 (ext P) i j := by
  rw [← ext_apply (ldl4.L_mat P)]; exact (gen_ldl4 P i j i.2 j.2).1
theorem gen_ldl4_D (P : Fin 4 → Fin 4 → ℝ) (j : Fin 4) :
    Gen.util.ldl4.D_mat P j j = Df 4 (ext P) j := by
  rw [← ext_apply (ldl4.D_mat P)]; exact (gen_ldl4 P j j j.2 j.2).2

/-! ## non-vacuity: a concrete 2 × 2 instance -/
example : Df 2 (fun i j => if i = j then 2 else 1) 1 = 3 / 2 := by
  rw [D_rec 2 _ 1 (by norm_num)]
  simp
  rw [L_rec 2 _ 1 0 (by norm_num) (by norm_num), D_rec 2 _ 0 (by norm_num)]
  simp; norm_num

end C10G
