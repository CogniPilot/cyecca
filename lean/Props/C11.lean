/-
  Props/C11.lean — attitude-estimator step contracts (cyecca/estimate/attitude/algorithms/mrp.py),
  on the regenerated programs Gen.mrp.{initialize, predict, correct_mag, correct_accel}.
-/
import GenM.Est
import Cas.Real
import Mathlib.Tactic.FinCases
import Lib.SqrtFilter
import Lib.Rot
import Mathlib.Logic.Equiv.Fin.Basic

open Gen Matrix

namespace C11

/-! Every output that a step guards by its error code is `if_else(error_code == 0, a, b)`, lowered by CasADi to
    `ifz c a + ifz (not c) b` (or `ifz c a` when `b` is a structural zero).  The generated lemmas `X_cut_eq`
    (the output as a function of the error code) and `X_cut_sel` (that function is such a selection) expose the
    shape without unfolding the branch programs. -/

-- one selected entry of a correction: rewrite with the generated peeling (`_cut_eq`) and selection (`_cut_sel`)
-- lemmas; the accepted branch stays an opaque term
open Lean in
macro "reject_entry " e:ident : tactic => do
  let ce := mkIdent (e.getId.appendAfter "_cut_eq")
  let cs := mkIdent (e.getId.appendAfter "_cut_sel")
  let cc := mkIdent (e.getId.appendAfter "_cut__c")
  let cb := mkIdent (e.getId.appendAfter "_cut__b")
  `(tactic| (rw [$ce:ident, $cs:ident]; simp only [$cc:ident, $cb:ident, cas_real]; simp [*]))

section correct_mag
variable (x : Fin 6 → ℝ) (W : Fin 6 → Fin 6 → ℝ) (y_b : Fin 3 → ℝ) (decl std_mag beta_mag_c : ℝ)
open Gen.mrp.correct_mag

/-- the error code of `correct_mag` is one of the documented values -/
theorem correct_mag_codes : error_code x W y_b decl std_mag beta_mag_c ∈ ({0, 1, 2} : Set ℝ) := by
  simp only [cas_defs, cas_real]; split_ifs <;> simp

/-- a rejected correction (error code ≠ 0) returns the state unchanged, all six components -/
theorem correct_mag_reject_x (h : error_code x W y_b decl std_mag beta_mag_c ≠ 0) :
    x_mag_vec x W y_b decl std_mag beta_mag_c = x := by
  funext i; fin_cases i <;> block_entry [x_mag_vec]
  · reject_entry x_mag_0
  · reject_entry x_mag_1
  · reject_entry x_mag_2
  · reject_entry x_mag_3
  · reject_entry x_mag_4
  · reject_entry x_mag_5

/-- … and the covariance factor unchanged: every entry of the lower triangle (the part the routine reads and
    writes; the strictly upper entries of the output are structural zeros) -/
theorem correct_mag_reject_W (h : error_code x W y_b decl std_mag beta_mag_c ≠ 0) (i j : Fin 6) (hij : j ≤ i) :
    W_mag_mat x W y_b decl std_mag beta_mag_c i j = W i j := by
  fin_cases i <;> fin_cases j <;> first | exact absurd hij (by decide) | skip
  all_goals block_entry [W_mag_mat]
  · reject_entry W_mag_0_0
  · reject_entry W_mag_1_0
  · reject_entry W_mag_1_1
  · reject_entry W_mag_2_0
  · reject_entry W_mag_2_1
  · reject_entry W_mag_2_2
  · reject_entry W_mag_3_0
  · reject_entry W_mag_3_1
  · reject_entry W_mag_3_2
  · reject_entry W_mag_3_3
  · reject_entry W_mag_4_0
  · reject_entry W_mag_4_1
  · reject_entry W_mag_4_2
  · reject_entry W_mag_4_3
  · reject_entry W_mag_4_4
  · reject_entry W_mag_5_0
  · reject_entry W_mag_5_1
  · reject_entry W_mag_5_2
  · reject_entry W_mag_5_3
  · reject_entry W_mag_5_4
  · reject_entry W_mag_5_5
theorem correct_mag_upper_zero (i j : Fin 6) (hij : i < j) :
    W_mag_mat x W y_b decl std_mag beta_mag_c i j = 0 := by
  fin_cases i <;> fin_cases j <;> first | exact absurd hij (by decide) | skip
  all_goals block_entry [W_mag_mat]; simp only [cas_defs, cas_real]
end correct_mag

section correct_accel
variable (x : Fin 6 → ℝ) (W : Fin 6 → Fin 6 → ℝ) (y_b : Fin 3 → ℝ) (g : ℝ) (omega_b : Fin 3 → ℝ) (std_accel std_accel_omega beta_accel_c : ℝ)
open Gen.mrp.correct_accel

/-- the error code of `correct_accel` is one of the documented values -/
theorem correct_accel_codes : error_code x W y_b g omega_b std_accel std_accel_omega beta_accel_c ∈ ({0, 1} : Set ℝ) := by
  simp only [cas_defs, cas_real]; split_ifs <;> simp

/-- a rejected correction (error code ≠ 0) returns the state unchanged, all six components -/
theorem correct_accel_reject_x (h : error_code x W y_b g omega_b std_accel std_accel_omega beta_accel_c ≠ 0) :
    x_accel_vec x W y_b g omega_b std_accel std_accel_omega beta_accel_c = x := by
  funext i; fin_cases i <;> block_entry [x_accel_vec]
  · reject_entry x_accel_0
  · reject_entry x_accel_1
  · reject_entry x_accel_2
  · reject_entry x_accel_3
  · reject_entry x_accel_4
  · reject_entry x_accel_5

/-- … and the covariance factor unchanged: every entry of the lower triangle (the part the routine reads and
    writes; the strictly upper entries of the output are structural zeros) -/
theorem correct_accel_reject_W (h : error_code x W y_b g omega_b std_accel std_accel_omega beta_accel_c ≠ 0) (i j : Fin 6) (hij : j ≤ i) :
    W_accel_mat x W y_b g omega_b std_accel std_accel_omega beta_accel_c i j = W i j := by
  fin_cases i <;> fin_cases j <;> first | exact absurd hij (by decide) | skip
  all_goals block_entry [W_accel_mat]
  · reject_entry W_accel_0_0
  · reject_entry W_accel_1_0
  · reject_entry W_accel_1_1
  · reject_entry W_accel_2_0
  · reject_entry W_accel_2_1
  · reject_entry W_accel_2_2
  · reject_entry W_accel_3_0
  · reject_entry W_accel_3_1
  · reject_entry W_accel_3_2
  · reject_entry W_accel_3_3
  · reject_entry W_accel_4_0
  · reject_entry W_accel_4_1
  · reject_entry W_accel_4_2
  · reject_entry W_accel_4_3
  · reject_entry W_accel_4_4
  · reject_entry W_accel_5_0
  · reject_entry W_accel_5_1
  · reject_entry W_accel_5_2
  · reject_entry W_accel_5_3
  · reject_entry W_accel_5_4
  · reject_entry W_accel_5_5
theorem correct_accel_upper_zero (i j : Fin 6) (hij : i < j) :
    W_accel_mat x W y_b g omega_b std_accel std_accel_omega beta_accel_c i j = 0 := by
  fin_cases i <;> fin_cases j <;> first | exact absurd hij (by decide) | skip
  all_goals block_entry [W_accel_mat]; simp only [cas_defs, cas_real]
end correct_accel

/-! ### accepted corrections never increase the covariance (under the contract of the QR factorisation)

`Gen.mrp.correct_*_qr` are the REAL correction programs with the single `ca.qr` call replaced by two extra inputs
(qrQ, qrR upper triangular) and the matrix handed to `ca.qr` exposed as the extra output `qr_arg`.  Under the contract
qrQᵀ qrQ = 1 and qrQ · qrR = qr_arg — what a QR factorisation returns — the accepted covariance factor W⁺ satisfies
P − W⁺W⁺ᵀ = G Gᵀ ⪰ 0 with P = W Wᵀ (W read on its lower triangle), for EVERY state, covariance factor and measurement. -/

def lowerPart {k : ℕ} (W : Fin k → Fin k → ℝ) : Matrix (Fin k) (Fin k) ℝ := Matrix.of fun i j => if j ≤ i then W i j else 0
def upperPart {k : ℕ} (R : Fin k → Fin k → ℝ) : Matrix (Fin k) (Fin k) ℝ := Matrix.of fun i j => if i ≤ j then R i j else 0

@[simp] theorem e2_inr5 : (finSumFinEquiv (Sum.inr (5 : Fin 6)) : Fin (2 + 6)) = (7 : Fin 8) := by decide

open Lean in
macro "accept_entry " e:ident : tactic => do
  let ce := mkIdent (e.getId.appendAfter "_cut_eq")
  let cs := mkIdent (e.getId.appendAfter "_cut_sel")
  let cc := mkIdent (e.getId.appendAfter "_cut__c")
  let ca := mkIdent (e.getId.appendAfter "_cut__a")
  `(tactic| (rw [$ce:ident, $cs:ident]; simp only [$cc:ident, $ca:ident, cas_real]; simp [*]))

section correct_mag_cov
variable (x : Fin 6 → ℝ) (W : Fin 6 → Fin 6 → ℝ) (y_b : Fin 3 → ℝ) (decl std_mag beta_mag_c : ℝ) (qrQ qrR : Fin 7 → Fin 7 → ℝ)
open Gen.mrp.correct_mag_qr
/-- accepted: the returned factor is the lower-right block of qrRᵀ -/
theorem correct_mag_accept_W (h0 : error_code x W y_b decl std_mag beta_mag_c qrQ qrR = 0) :
    W_mag_mat x W y_b decl std_mag beta_mag_c qrQ qrR
      = (((upperPart qrR)ᵀ).submatrix finSumFinEquiv finSumFinEquiv).toBlocks₂₂ (n := Fin 1) (o := Fin 6) := by
  ext i j
  simp only [toBlocks₂₂, submatrix_apply, transpose_apply, finSumFinEquiv_apply_right, of_apply]
  fin_cases i <;> fin_cases j <;> block_entry [W_mag_mat, upperPart]
  · accept_entry W_mag_0_0
  · simp only [cas_defs, cas_real]
  · simp only [cas_defs, cas_real]
  · simp only [cas_defs, cas_real]
  · simp only [cas_defs, cas_real]
  · simp only [cas_defs, cas_real]
  · accept_entry W_mag_1_0
  · accept_entry W_mag_1_1
  · simp only [cas_defs, cas_real]
  · simp only [cas_defs, cas_real]
  · simp only [cas_defs, cas_real]
  · simp only [cas_defs, cas_real]
  · accept_entry W_mag_2_0
  · accept_entry W_mag_2_1
  · accept_entry W_mag_2_2
  · simp only [cas_defs, cas_real]
  · simp only [cas_defs, cas_real]
  · simp only [cas_defs, cas_real]
  · accept_entry W_mag_3_0
  · accept_entry W_mag_3_1
  · accept_entry W_mag_3_2
  · accept_entry W_mag_3_3
  · simp only [cas_defs, cas_real]
  · simp only [cas_defs, cas_real]
  · accept_entry W_mag_4_0
  · accept_entry W_mag_4_1
  · accept_entry W_mag_4_2
  · accept_entry W_mag_4_3
  · accept_entry W_mag_4_4
  · simp only [cas_defs, cas_real]
  · accept_entry W_mag_5_0
  · accept_entry W_mag_5_1
  · accept_entry W_mag_5_2
  · accept_entry W_mag_5_3
  · accept_entry W_mag_5_4
  · accept_entry W_mag_5_5
/-- the lower-right block of the matrix handed to the QR routine is the (lower triangle of the) prior factor W -/
theorem correct_mag_arg_W :
    (((qr_arg_mat x W y_b decl std_mag beta_mag_c qrQ qrR)ᵀ).submatrix finSumFinEquiv finSumFinEquiv).toBlocks₂₂ (n := Fin 1) (o := Fin 6) = lowerPart W := by
  ext i j
  simp only [toBlocks₂₂, submatrix_apply, transpose_apply, finSumFinEquiv_apply_right, of_apply]
  fin_cases i <;> fin_cases j <;> block_entry [qr_arg_mat, lowerPart] <;> simp only [cas_defs, cas_real]
/-- P − W⁺W⁺ᵀ is positive semidefinite -/
theorem correct_mag_accept_cov (hQ : (Matrix.of qrQ)ᵀ * Matrix.of qrQ = 1)
    (hQR : Matrix.of qrQ * upperPart qrR = qr_arg_mat x W y_b decl std_mag beta_mag_c qrQ qrR)
    (h0 : error_code x W y_b decl std_mag beta_mag_c qrQ qrR = 0) :
    (lowerPart W * (lowerPart W)ᵀ - W_mag_mat x W y_b decl std_mag beta_mag_c qrQ qrR * (W_mag_mat x W y_b decl std_mag beta_mag_c qrQ qrR)ᵀ).PosSemidef := by
  have hA : ∀ (i : Fin 6) (j : Fin 1), qr_arg_mat x W y_b decl std_mag beta_mag_c qrQ qrR (finSumFinEquiv (m := 1) (n := 6) (Sum.inl j)) (finSumFinEquiv (Sum.inr i)) = 0 := by
    intro i j
    fin_cases i <;> fin_cases j <;> block_entry [qr_arg_mat] <;> simp only [cas_defs, cas_real]
  rw [← correct_mag_arg_W x W y_b decl std_mag beta_mag_c qrQ qrR, correct_mag_accept_W _ _ _ _ _ _ _ _ h0]
  exact SqrtFilter.cov_decrease finSumFinEquiv _ _ _ hQ hQR hA
    fun i j => SqrtFilter.lowerLeft_eq_zero (upperPart qrR) (fun _ _ h => if_neg (not_le.2 h)) i j
end correct_mag_cov

section correct_accel_cov
variable (x : Fin 6 → ℝ) (W : Fin 6 → Fin 6 → ℝ) (y_b : Fin 3 → ℝ) (g : ℝ) (omega_b : Fin 3 → ℝ) (std_accel std_accel_omega beta_accel_c : ℝ) (qrQ qrR : Fin 8 → Fin 8 → ℝ)
open Gen.mrp.correct_accel_qr
theorem correct_accel_accept_W (h0 : error_code x W y_b g omega_b std_accel std_accel_omega beta_accel_c qrQ qrR = 0) :
    W_accel_mat x W y_b g omega_b std_accel std_accel_omega beta_accel_c qrQ qrR
      = (((upperPart qrR)ᵀ).submatrix finSumFinEquiv finSumFinEquiv).toBlocks₂₂ (n := Fin 2) (o := Fin 6) := by
  ext i j
  simp only [toBlocks₂₂, submatrix_apply, transpose_apply, finSumFinEquiv_apply_right, of_apply]
  fin_cases i <;> fin_cases j <;> block_entry [W_accel_mat, upperPart]
  · accept_entry W_accel_0_0
  · simp only [cas_defs, cas_real]
  · simp only [cas_defs, cas_real]
  · simp only [cas_defs, cas_real]
  · simp only [cas_defs, cas_real]
  · simp only [cas_defs, cas_real]
  · accept_entry W_accel_1_0
  · accept_entry W_accel_1_1
  · simp only [cas_defs, cas_real]
  · simp only [cas_defs, cas_real]
  · simp only [cas_defs, cas_real]
  · simp only [cas_defs, cas_real]
  · accept_entry W_accel_2_0
  · accept_entry W_accel_2_1
  · accept_entry W_accel_2_2
  · simp only [cas_defs, cas_real]
  · simp only [cas_defs, cas_real]
  · simp only [cas_defs, cas_real]
  · accept_entry W_accel_3_0
  · accept_entry W_accel_3_1
  · accept_entry W_accel_3_2
  · accept_entry W_accel_3_3
  · simp only [cas_defs, cas_real]
  · simp only [cas_defs, cas_real]
  · accept_entry W_accel_4_0
  · accept_entry W_accel_4_1
  · accept_entry W_accel_4_2
  · accept_entry W_accel_4_3
  · accept_entry W_accel_4_4
  · simp only [cas_defs, cas_real]
  · accept_entry W_accel_5_0
  · accept_entry W_accel_5_1
  · accept_entry W_accel_5_2
  · accept_entry W_accel_5_3
  · accept_entry W_accel_5_4
  · accept_entry W_accel_5_5
theorem correct_accel_arg_W :
    (((qr_arg_mat x W y_b g omega_b std_accel std_accel_omega beta_accel_c qrQ qrR)ᵀ).submatrix finSumFinEquiv finSumFinEquiv).toBlocks₂₂ (n := Fin 2) (o := Fin 6) = lowerPart W := by
  ext i j
  simp only [toBlocks₂₂, submatrix_apply, transpose_apply, finSumFinEquiv_apply_right, of_apply]
  fin_cases i <;> fin_cases j <;> block_entry [qr_arg_mat, lowerPart] <;> simp only [cas_defs, cas_real]
/-- P − W⁺W⁺ᵀ is positive semidefinite -/
theorem correct_accel_accept_cov (hQ : (Matrix.of qrQ)ᵀ * Matrix.of qrQ = 1)
    (hQR : Matrix.of qrQ * upperPart qrR = qr_arg_mat x W y_b g omega_b std_accel std_accel_omega beta_accel_c qrQ qrR)
    (h0 : error_code x W y_b g omega_b std_accel std_accel_omega beta_accel_c qrQ qrR = 0) :
    (lowerPart W * (lowerPart W)ᵀ - W_accel_mat x W y_b g omega_b std_accel std_accel_omega beta_accel_c qrQ qrR * (W_accel_mat x W y_b g omega_b std_accel std_accel_omega beta_accel_c qrQ qrR)ᵀ).PosSemidef := by
  have hA : ∀ (i : Fin 6) (j : Fin 2), qr_arg_mat x W y_b g omega_b std_accel std_accel_omega beta_accel_c qrQ qrR (finSumFinEquiv (m := 2) (n := 6) (Sum.inl j)) (finSumFinEquiv (Sum.inr i)) = 0 := by
    intro i j
    fin_cases i <;> fin_cases j <;> block_entry [qr_arg_mat] <;> simp only [cas_defs, cas_real]
  rw [← correct_accel_arg_W x W y_b g omega_b std_accel std_accel_omega beta_accel_c qrQ qrR, correct_accel_accept_W _ _ _ _ _ _ _ _ _ _ h0]
  exact SqrtFilter.cov_decrease finSumFinEquiv _ _ _ hQ hQR hA
    fun i j => SqrtFilter.lowerLeft_eq_zero (upperPart qrR) (fun _ _ h => if_neg (not_le.2 h)) i j
end correct_accel_cov

/-- the shadow switch as CasADi lowers it: `if_else(1 < |b|², −b_k/|b|², b_k)` -/
theorem shadow_sel (b0 b1 b2 b : ℝ) :
    CasNum.add (CasNum.ifz (CasNum.lt (CasNum.ofInt 1) (CasNum.add (CasNum.add (CasNum.sq b0) (CasNum.sq b1)) (CasNum.sq b2)))
        (CasNum.neg (CasNum.div b (CasNum.add (CasNum.add (CasNum.sq b0) (CasNum.sq b1)) (CasNum.sq b2)))))
      (CasNum.ifz (CasNum.not (CasNum.lt (CasNum.ofInt 1) (CasNum.add (CasNum.add (CasNum.sq b0) (CasNum.sq b1)) (CasNum.sq b2)))) b)
      = if 1 < b0 ^ 2 + b1 ^ 2 + b2 ^ 2 then -(b / (b0 ^ 2 + b1 ^ 2 + b2 ^ 2)) else b := by
  simp only [cas_real, pow_two]

theorem shadow_norm_le (b0 b1 b2 : ℝ) :
    let n := b0 ^ 2 + b1 ^ 2 + b2 ^ 2
    let s := fun b : ℝ => if 1 < n then -(b / n) else b
    s b0 ^ 2 + s b1 ^ 2 + s b2 ^ 2 ≤ 1 := by
  intro n s
  by_cases h : 1 < n
  · simp only [s, if_pos h]; exact Rot.nsq_shadow_le ![b0, b1, b2] h
  · simp only [s, if_neg h]; exact not_lt.mp h

section predict
variable (t : ℝ) (x : Fin 6 → ℝ) (W : Fin 6 → Fin 6 → ℝ) (om : Fin 3 → ℝ) (sg sn dt : ℝ)
open Gen.mrp.predict

/-- the three attitude outputs are the shadow selection applied to the integrated MRP `x1_i__b` (structural) -/
theorem predict_shadow_form :
    let b0 := x1_0__b t x W om sg sn dt
    let b1 := x1_1__b t x W om sg sn dt
    let b2 := x1_2__b t x W om sg sn dt
    let n := b0 ^ 2 + b1 ^ 2 + b2 ^ 2
    x1_0 t x W om sg sn dt = (if 1 < n then -(b0 / n) else b0)
    ∧ x1_1 t x W om sg sn dt = (if 1 < n then -(b1 / n) else b1)
    ∧ x1_2 t x W om sg sn dt = (if 1 < n then -(b2 / n) else b2) := by
  intro b0 b1 b2 n
  exact ⟨(x1_0_sel ..).trans (shadow_sel b0 b1 b2 b0), (x1_1_sel ..).trans (shadow_sel b0 b1 b2 b1),
    (x1_2_sel ..).trans (shadow_sel b0 b1 b2 b2)⟩

/-- the predicted MRP has norm at most 1, for EVERY state, rate, step and covariance -/
theorem predict_norm :
    x1_0 t x W om sg sn dt ^ 2 + x1_1 t x W om sg sn dt ^ 2 + x1_2 t x W om sg sn dt ^ 2 ≤ 1 := by
  obtain ⟨e0, e1, e2⟩ := predict_shadow_form t x W om sg sn dt
  rw [e0, e1, e2]
  exact shadow_norm_le _ _ _

/-- … and it represents the same rotation as the integrated (pre-shadow) MRP -/
theorem predict_same_rotation :
    Rot.mrpMat ![x1_0 t x W om sg sn dt, x1_1 t x W om sg sn dt, x1_2 t x W om sg sn dt]
      = Rot.mrpMat ![x1_0__b t x W om sg sn dt, x1_1__b t x W om sg sn dt, x1_2__b t x W om sg sn dt] := by
  obtain ⟨e0, e1, e2⟩ := predict_shadow_form t x W om sg sn dt
  rw [e0, e1, e2]
  set b0 := x1_0__b t x W om sg sn dt
  set b1 := x1_1__b t x W om sg sn dt
  set b2 := x1_2__b t x W om sg sn dt
  by_cases h : 1 < b0 ^ 2 + b1 ^ 2 + b2 ^ 2
  · simp only [if_pos h]
    rw [← Rot.mrpMat_shadow ![b0, b1, b2] (ne_of_gt (lt_trans one_pos h))]
    congr 1; funext i; fin_cases i <;> rfl
  · simp only [if_neg h]

/-- the gyro-bias part of the state is carried over unchanged by prediction -/
theorem predict_bias : x1_3 t x W om sg sn dt = x 3 ∧ x1_4 t x W om sg sn dt = x 4 ∧ x1_5 t x W om sg sn dt = x 5 := by
  refine ⟨?_, ?_, ?_⟩ <;> simp only [cas_defs]
end predict

/-! ### initialisation: documented error codes; a failed initialisation returns the zero state -/
section init
variable (g_b B_b : Fin 3 → ℝ) (decl : ℝ)
open Gen.mrp.initialize

theorem init_codes : error_code g_b B_b decl ∈ ({0, 1, 2, 3} : Set ℝ) := by
  simp only [cas_defs, cas_real]; split_ifs <;> simp

/-- the initial gyro bias is zero whatever the measurements -/
theorem init_bias_zero : x0_3 g_b B_b decl = 0 ∧ x0_4 g_b B_b decl = 0 ∧ x0_5 g_b B_b decl = 0 := by
  refine ⟨?_, ?_, ?_⟩ <;> simp only [cas_defs, cas_real]

open Lean in
macro "init_entry " e:ident : tactic => do
  let ce := mkIdent (e.getId.appendAfter "_cut_eq")
  let cs := mkIdent (e.getId.appendAfter "_cut_sel")
  let cc := mkIdent (e.getId.appendAfter "_cut__c")
  `(tactic| (rw [$ce:ident, $cs:ident]; simp only [$cc:ident, cas_real]; simp [*]))

theorem init_reject_zero (h : error_code g_b B_b decl ≠ 0) : x0_vec g_b B_b decl = 0 := by
  funext i; fin_cases i <;> block_entry [x0_vec, Pi.zero_apply]
  · init_entry x0_0
  · init_entry x0_1
  · init_entry x0_2
  · exact (init_bias_zero g_b B_b decl).1
  · exact (init_bias_zero g_b B_b decl).2.1
  · exact (init_bias_zero g_b B_b decl).2.2
end init

end C11
