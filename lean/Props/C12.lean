/-
  Props/C12.lean — structural theorems behind the closed-loop behaviour of the packaged attitude simulator and
  MRP estimator (cyecca/estimate/attitude/algorithms/{sim,mrp}.py).  The trajectory-level convergence claim is
  NOT a theorem here (see DESIGN.md §2 C12); these are the step-level facts it rests on.
-/
import Props.C11
import Props.C07

open Gen Matrix Rot

namespace C12

/-! ### sensor models of the simulator: noise-free readings rotate with the true attitude and keep their magnitude -/
section sensors
variable (x : Fin 6 → ℝ)

/-- the sensor models apply `C_nb.inverse()` with `C_nb = SO3Dcm.from_Mrp(r)`, r the attitude part of the state: R(r)ᵀ -/
theorem toMatrix_Cnb_inverse (r : Fin 3 → ℝ) :
    SO3Dcm.toMatrix.M_mat (SO3Dcm.inverse.r_vec (SO3Dcm.from_Mrp.r_vec r)) = (mrpMat r)ᵀ := by
  rw [Spec.SO3Dcm_inverse, C07.Dcm_from_Mrp, Spec.SO3Mrp_toMatrix]

/-- accelerometer: y = R(r)ᵀ (0, 0, −g) for every MRP r (no noise) -/
theorem accel_model (g : ℝ) :
    sim.measure_accel.y_vec x g 0 (fun _ => 0) = (mrpMat ![x 0, x 1, x 2])ᵀ *ᵥ ![0, 0, -g] := by
  rw [← toMatrix_Cnb_inverse, mulVec_fin_three, sim.measure_accel.y_vec]
  simp only [SO3Dcm.toMatrix.M_mat, of_apply, cons_val]
  lit_entries <;> simp only [cas_defs, cas_real, cons_val, mul_zero, add_zero, zero_add] <;> ring

/-- … hence its magnitude is the configured gravity -/
theorem accel_norm (g : ℝ) :
    sim.measure_accel.y_0 x g 0 (fun _ => 0) ^ 2 + sim.measure_accel.y_1 x g 0 (fun _ => 0) ^ 2
      + sim.measure_accel.y_2 x g 0 (fun _ => 0) ^ 2 = g ^ 2 := by
  have e := congrArg nsq (accel_model x g)
  rwa [nsq_mrpMat_transpose_mulVec, show nsq ![0, 0, -g] = g ^ 2 by simp [nsq]] at e

/-- gyroscope: y = ω + b -/
theorem gyro_model (om : Fin 3 → ℝ) :
    sim.measure_gyro.y_vec x om 0 (fun _ => 0) = fun i => om i + x (Fin.natAdd 3 i) := by
  funext i; fin_cases i <;> simp [cas_defs, cas_real]

/-- magnetometer: the noise-free reading is the true-attitude rotation R(r)ᵀ of the reading at the identity
    attitude (a nav-frame vector that depends only on field strength, declination and inclination) -/
theorem mag_rotates (s d i : ℝ) :
    sim.measure_mag.y_vec x s d i 0 (fun _ => 0)
      = (mrpMat ![x 0, x 1, x 2])ᵀ *ᵥ sim.measure_mag.y_vec (fun _ => 0) s d i 0 (fun _ => 0) := by
  rw [← toMatrix_Cnb_inverse, mulVec_fin_three, sim.measure_mag.y_vec, sim.measure_mag.y_vec]
  simp only [SO3Dcm.toMatrix.M_mat, of_apply, cons_val]
  -- both sides are combinations of the same three nav-frame field components, atoms for `ring`
  lit_entries <;> simp only [cas_defs, cas_real, cons_val, mul_zero, add_zero] <;> ring

/-- … hence its magnitude does not depend on the attitude -/
theorem mag_norm_invariant (s d i : ℝ) :
    sim.measure_mag.y_0 x s d i 0 (fun _ => 0) ^ 2 + sim.measure_mag.y_1 x s d i 0 (fun _ => 0) ^ 2
      + sim.measure_mag.y_2 x s d i 0 (fun _ => 0) ^ 2
    = sim.measure_mag.y_0 (fun _ => 0) s d i 0 (fun _ => 0) ^ 2 + sim.measure_mag.y_1 (fun _ => 0) s d i 0 (fun _ => 0) ^ 2
      + sim.measure_mag.y_2 (fun _ => 0) s d i 0 (fun _ => 0) ^ 2 := by
  have e := congrArg nsq (mag_rotates x s d i)
  rwa [nsq_mrpMat_transpose_mulVec] at e
end sensors

/-! ### truth propagation keeps the true MRP in the closed unit ball (shadow switch) -/
section simulate
variable (t : ℝ) (x : Fin 6 → ℝ) (om : Fin 3 → ℝ) (sn : ℝ) (w : Fin 3 → ℝ) (dt : ℝ)
open Gen.sim.simulate

theorem simulate_norm :
    x1_0 t x om sn w dt ^ 2 + x1_1 t x om sn w dt ^ 2 + x1_2 t x om sn w dt ^ 2 ≤ 1 := by
  set b0 := x1_0__b t x om sn w dt
  set b1 := x1_1__b t x om sn w dt
  set b2 := x1_2__b t x om sn w dt
  rw [(x1_0_sel ..).trans (C11.shadow_sel b0 b1 b2 b0), (x1_1_sel ..).trans (C11.shadow_sel b0 b1 b2 b1),
    (x1_2_sel ..).trans (C11.shadow_sel b0 b1 b2 b2)]
  exact C11.shadow_norm_le b0 b1 b2
end simulate

/-! ### an accepted magnetometer correction writes ALL three gyro-bias components with the gain rule b⁺ = b + K r
    (QR-abstracted variant of the real program; K_i = qrR[0, 4+i] / qrR[0, 0], r = the returned residual) -/
section mag_bias
variable (x : Fin 6 → ℝ) (W : Fin 6 → Fin 6 → ℝ) (y_b : Fin 3 → ℝ) (decl std_mag beta_mag_c : ℝ) (qrQ qrR : Fin 7 → Fin 7 → ℝ)
open Gen.mrp.correct_mag_qr

open Lean in
macro "accept_entry " e:ident : tactic => do
  let ce := mkIdent (e.getId.appendAfter "_cut_eq")
  let cs := mkIdent (e.getId.appendAfter "_cut_sel")
  let cc := mkIdent (e.getId.appendAfter "_cut__c")
  let ca := mkIdent (e.getId.appendAfter "_cut__a")
  `(tactic| (rw [$ce:ident, $cs:ident]; simp only [$cc:ident, $ca:ident, cas_real]; simp [*]))

theorem mag_bias_update (h0 : error_code x W y_b decl std_mag beta_mag_c qrQ qrR = 0) :
    let r := r_mag x W y_b decl std_mag beta_mag_c qrQ qrR
    x_mag_3 x W y_b decl std_mag beta_mag_c qrQ qrR = x 3 + qrR 0 4 / qrR 0 0 * r
    ∧ x_mag_4 x W y_b decl std_mag beta_mag_c qrQ qrR = x 4 + qrR 0 5 / qrR 0 0 * r
    ∧ x_mag_5 x W y_b decl std_mag beta_mag_c qrQ qrR = x 5 + qrR 0 6 / qrR 0 0 * r := by
  intro r
  refine ⟨?_, ?_, ?_⟩
  · accept_entry x_mag_3; ring
  · accept_entry x_mag_4; ring
  · accept_entry x_mag_5; ring
end mag_bias

/-! ### … and so does an accepted accelerometer correction (gain rows from the 2×2 innovation factor) -/
section accel_bias
variable (x : Fin 6 → ℝ) (W : Fin 6 → Fin 6 → ℝ) (y_b : Fin 3 → ℝ) (g : ℝ) (omega_b : Fin 3 → ℝ) (std_accel std_accel_omega beta_accel_c : ℝ) (qrQ qrR : Fin 8 → Fin 8 → ℝ)
open Gen.mrp.correct_accel_qr

open Lean in
macro "accel_bias_entry " e:ident : tactic => do
  let ce := mkIdent (e.getId.appendAfter "_cut_eq")
  let cs := mkIdent (e.getId.appendAfter "_cut_sel")
  let cc := mkIdent (e.getId.appendAfter "_cut__c")
  let ca := mkIdent (e.getId.appendAfter "_cut__a")
  `(tactic| (rw [$ce:ident, $cs:ident]; simp only [$cc:ident, $ca:ident, cas_real, *]; simp only [r_accel_0, r_accel_1, cas_real]; split_ifs <;> ring))

theorem accel_bias_update (h0 : error_code x W y_b g omega_b std_accel std_accel_omega beta_accel_c qrQ qrR = 0) :
    let r0 := r_accel_0 x W y_b g omega_b std_accel std_accel_omega beta_accel_c qrQ qrR
    let r1 := r_accel_1 x W y_b g omega_b std_accel std_accel_omega beta_accel_c qrQ qrR
    let K := fun j : Fin 8 => (qrR 0 j / qrR 0 0 - qrR 1 j * (qrR 0 1 / qrR 0 0 / qrR 1 1), qrR 1 j / qrR 1 1)
    x_accel_3 x W y_b g omega_b std_accel std_accel_omega beta_accel_c qrQ qrR = x 3 + (K 5).1 * r0 + (K 5).2 * r1
    ∧ x_accel_4 x W y_b g omega_b std_accel std_accel_omega beta_accel_c qrQ qrR = x 4 + (K 6).1 * r0 + (K 6).2 * r1
    ∧ x_accel_5 x W y_b g omega_b std_accel std_accel_omega beta_accel_c qrQ qrR = x 5 + (K 7).1 * r0 + (K 7).2 * r1 := by
  intro r0 r1 K
  simp only [r0, r1, K]
  refine ⟨?_, ?_, ?_⟩
  · accel_bias_entry x_accel_3
  · accel_bias_entry x_accel_4
  · accel_bias_entry x_accel_5
end accel_bias

end C12
