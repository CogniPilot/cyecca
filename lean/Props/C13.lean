/-
  Props/C13.lean — control allocation: reachable motor commands, feasible demands
  honoured exactly, moment priority with the least collective-thrust shift.

  `Gen.rdd2.control_allocation.*` is regenerated from rdd2.derive_control_allocation().
  The `_cut` definitions are the same programs with the outputs `F_moment`, `F_thrust`
  abstracted as arguments (`*_cut_eq : f args = f_cut args (F_moment args) (F_thrust args) := rfl`).
  Theorems are first stated on the peeled programs for ALL motor-force vectors m (moment
  part) and t (thrust part), then transported to the real function.  The four peeled programs
  are one law, `alloc`, applied to each motor's own parts; what is true of every motor is proved
  about `alloc`.
-/
import GenM.Alloc
import Lib.Sat

open Gen Gen.rdd2.control_allocation

namespace C13

def mx (s0 s1 s2 s3 : ℝ) : ℝ := max (max (max s0 s1) s2) s3
def mn (s0 s1 s2 s3 : ℝ) : ℝ := min (min (min s0 s1) s2) s3

/-- the collective shift the allocator applies when the moment spread fits in `F` -/
noncomputable def shift (F s0 s1 s2 s3 : ℝ) : ℝ :=
  if 0 ≤ F - mx s0 s1 s2 s3 then (if 0 ≤ mn s0 s1 s2 s3 then 0 else - mn s0 s1 s2 s3)
  else F - mx s0 s1 s2 s3

theorem shift_eq (F s0 s1 s2 s3 : ℝ) :
    shift F s0 s1 s2 s3 = Sat.shift F (mx s0 s1 s2 s3) (mn s0 s1 s2 s3) := rfl

/-- One motor's output as `derive_control_allocation` computes it under `saturation_logic`. What
    the motors share enters through the largest and the smallest demand `hi`, `lo` (demand =
    `F_moment i + F_thrust i`; the margins are `C1 = F - hi`, `C2 = lo`) and `A = max |F_moment i|`;
    `m`, `t` are the motor's own moment and thrust parts.  The tolerance is the double `1e-5`. -/
noncomputable def alloc (F hi lo A m t : ℝ) : ℝ :=
  Sat.clamp0 F
    ((if (F - hi < 0 ∧ lo < 0) ∧ 5902958103587057 * 2 ^ (-69 : ℤ) < A then F / 2 * m / A else m)
      + if 0 ≤ F - hi then (if 0 ≤ lo then t else t - lo) else if 0 ≤ lo then t + (F - hi) else F / 2)

theorem Fp_sum_cut_alloc (F l Cm Ct T : ℝ) (M : Fin 3 → ℝ) (m0 m1 m2 m3 t0 t1 t2 t3 : ℝ) :
    let hi := mx (m0 + t0) (m1 + t1) (m2 + t2) (m3 + t3)
    let lo := mn (m0 + t0) (m1 + t1) (m2 + t2) (m3 + t3)
    let A := mx |m0| |m1| |m2| |m3|
    Fp_sum_0_cut F l Cm Ct T M m0 m1 m2 m3 t0 t1 t2 t3 = alloc F hi lo A m0 t0
    ∧ Fp_sum_1_cut F l Cm Ct T M m0 m1 m2 m3 t0 t1 t2 t3 = alloc F hi lo A m1 t1
    ∧ Fp_sum_2_cut F l Cm Ct T M m0 m1 m2 m3 t0 t1 t2 t3 = alloc F hi lo A m2 t2
    ∧ Fp_sum_3_cut F l Cm Ct T M m0 m1 m2 m3 t0 t1 t2 t3 = alloc F hi lo A m3 t3 := by
  intro hi lo A
  refine ⟨?_, ?_, ?_, ?_⟩ <;> simp only [cas_defs, cas_real, alloc, Sat.clamp0, mx, mn, hi, lo, A]

theorem alloc_bounds {F : ℝ} (hF : 0 ≤ F) (hi lo A m t : ℝ) :
    0 ≤ alloc F hi lo A m t ∧ alloc F hi lo A m t ≤ F :=
  Sat.clamp0_bounds hF _

/-- If the spread of the demands fits in `F` the two margins are not both negative, so the moment
    part is not rescaled and the thrust part moves by `Sat.shift` (nothing, or up by `-C2`, or down
    by `C1`); that brings every demand into range, so the final clamp does nothing. -/
theorem alloc_of_spread_le {F hi lo m t : ℝ} (A : ℝ) (hsp : hi - lo ≤ F) (hlo : lo ≤ m + t)
    (hhi : m + t ≤ hi) : alloc F hi lo A m t = m + (t + Sat.shift F hi lo) := by
  have hC : ¬(F - hi < 0 ∧ lo < 0) := fun h => by linarith [h.1, h.2]
  have e : alloc F hi lo A m t = Sat.clamp0 F (m + (t + Sat.shift F hi lo)) := by
    unfold alloc Sat.shift
    rw [if_neg fun h => hC h.1]
    split_ifs with h1 h2 h2
    · rw [add_zero]
    · rw [sub_eq_add_neg]
    · rfl
    · exact absurd ⟨not_le.mp h1, not_le.mp h2⟩ hC
  obtain ⟨h0, hF⟩ := Sat.add_shift_mem hsp hlo hhi
  rw [e, ← add_assoc]
  exact Sat.clamp0_id h0 hF

theorem bounds_cut {F : ℝ} (hF : 0 ≤ F) (l Cm Ct T : ℝ) (M : Fin 3 → ℝ) (m0 m1 m2 m3 t0 t1 t2 t3 : ℝ) :
    (0 ≤ Fp_sum_0_cut F l Cm Ct T M m0 m1 m2 m3 t0 t1 t2 t3
      ∧ Fp_sum_0_cut F l Cm Ct T M m0 m1 m2 m3 t0 t1 t2 t3 ≤ F)
    ∧ (0 ≤ Fp_sum_1_cut F l Cm Ct T M m0 m1 m2 m3 t0 t1 t2 t3
      ∧ Fp_sum_1_cut F l Cm Ct T M m0 m1 m2 m3 t0 t1 t2 t3 ≤ F)
    ∧ (0 ≤ Fp_sum_2_cut F l Cm Ct T M m0 m1 m2 m3 t0 t1 t2 t3
      ∧ Fp_sum_2_cut F l Cm Ct T M m0 m1 m2 m3 t0 t1 t2 t3 ≤ F)
    ∧ (0 ≤ Fp_sum_3_cut F l Cm Ct T M m0 m1 m2 m3 t0 t1 t2 t3
      ∧ Fp_sum_3_cut F l Cm Ct T M m0 m1 m2 m3 t0 t1 t2 t3 ≤ F) := by
  obtain ⟨e0, e1, e2, e3⟩ := Fp_sum_cut_alloc F l Cm Ct T M m0 m1 m2 m3 t0 t1 t2 t3
  rw [e0, e1, e2, e3]
  exact ⟨alloc_bounds hF .., alloc_bounds hF .., alloc_bounds hF .., alloc_bounds hF ..⟩

/-- moment priority: if the spread of the demanded motor forces fits in `F`, the allocator returns
    every demand moved by ONE common shift -/
theorem moment_priority_cut {F m0 m1 m2 m3 t0 t1 t2 t3 : ℝ}
    (hsp : mx (m0 + t0) (m1 + t1) (m2 + t2) (m3 + t3)
            - mn (m0 + t0) (m1 + t1) (m2 + t2) (m3 + t3) ≤ F) (l Cm Ct T : ℝ) (M : Fin 3 → ℝ) :
    let τ := shift F (m0 + t0) (m1 + t1) (m2 + t2) (m3 + t3)
    Fp_sum_0_cut F l Cm Ct T M m0 m1 m2 m3 t0 t1 t2 t3 = m0 + (t0 + τ)
    ∧ Fp_sum_1_cut F l Cm Ct T M m0 m1 m2 m3 t0 t1 t2 t3 = m1 + (t1 + τ)
    ∧ Fp_sum_2_cut F l Cm Ct T M m0 m1 m2 m3 t0 t1 t2 t3 = m2 + (t2 + τ)
    ∧ Fp_sum_3_cut F l Cm Ct T M m0 m1 m2 m3 t0 t1 t2 t3 = m3 + (t3 + τ) := by
  intro τ
  obtain ⟨e0, e1, e2, e3⟩ := Fp_sum_cut_alloc F l Cm Ct T M m0 m1 m2 m3 t0 t1 t2 t3
  obtain ⟨l0, l1, l2, l3⟩ := Sat.min4_le (m0 + t0) (m1 + t1) (m2 + t2) (m3 + t3)
  obtain ⟨u0, u1, u2, u3⟩ := Sat.le_max4 (m0 + t0) (m1 + t1) (m2 + t2) (m3 + t3)
  rw [e0, e1, e2, e3, show τ = _ from shift_eq ..]
  exact ⟨alloc_of_spread_le _ hsp l0 u0, alloc_of_spread_le _ hsp l1 u1,
    alloc_of_spread_le _ hsp l2 u2, alloc_of_spread_le _ hsp l3 u3⟩

/-- a jointly achievable demand is reproduced exactly: the spread fits and the shift is 0 -/
theorem feasible_cut {F m0 m1 m2 m3 t0 t1 t2 t3 : ℝ}
    (h0 : 0 ≤ m0 + t0 ∧ m0 + t0 ≤ F) (h1 : 0 ≤ m1 + t1 ∧ m1 + t1 ≤ F)
    (h2 : 0 ≤ m2 + t2 ∧ m2 + t2 ≤ F) (h3 : 0 ≤ m3 + t3 ∧ m3 + t3 ≤ F)
    (l Cm Ct T : ℝ) (M : Fin 3 → ℝ) :
    Fp_sum_0_cut F l Cm Ct T M m0 m1 m2 m3 t0 t1 t2 t3 = m0 + t0
    ∧ Fp_sum_1_cut F l Cm Ct T M m0 m1 m2 m3 t0 t1 t2 t3 = m1 + t1
    ∧ Fp_sum_2_cut F l Cm Ct T M m0 m1 m2 m3 t0 t1 t2 t3 = m2 + t2
    ∧ Fp_sum_3_cut F l Cm Ct T M m0 m1 m2 m3 t0 t1 t2 t3 = m3 + t3 := by
  have hlo : 0 ≤ mn (m0 + t0) (m1 + t1) (m2 + t2) (m3 + t3) := Sat.le_min4 h0.1 h1.1 h2.1 h3.1
  have hhi : mx (m0 + t0) (m1 + t1) (m2 + t2) (m3 + t3) ≤ F := Sat.max4_le h0.2 h1.2 h2.2 h3.2
  have hs : shift F (m0 + t0) (m1 + t1) (m2 + t2) (m3 + t3) = 0 := by
    rw [shift, if_pos (sub_nonneg.mpr hhi), if_pos hlo]
  have hsp : mx (m0 + t0) (m1 + t1) (m2 + t2) (m3 + t3)
      - mn (m0 + t0) (m1 + t1) (m2 + t2) (m3 + t3) ≤ F := by linarith
  simpa only [hs, add_zero] using moment_priority_cut hsp l Cm Ct T M

theorem bounds_0_cut (F l Cm Ct T : ℝ) (M : Fin 3 → ℝ) (m0 m1 m2 m3 t0 t1 t2 t3 : ℝ) (hF : 0 ≤ F) :
    0 ≤ Fp_sum_0_cut F l Cm Ct T M m0 m1 m2 m3 t0 t1 t2 t3
      ∧ Fp_sum_0_cut F l Cm Ct T M m0 m1 m2 m3 t0 t1 t2 t3 ≤ F :=
  (bounds_cut hF ..).1

theorem feasible_0_cut (F l Cm Ct T : ℝ) (M : Fin 3 → ℝ) (m0 m1 m2 m3 t0 t1 t2 t3 : ℝ)
    (h0 : 0 ≤ m0 + t0 ∧ m0 + t0 ≤ F) (h1 : 0 ≤ m1 + t1 ∧ m1 + t1 ≤ F)
    (h2 : 0 ≤ m2 + t2 ∧ m2 + t2 ≤ F) (h3 : 0 ≤ m3 + t3 ∧ m3 + t3 ≤ F) :
    Fp_sum_0_cut F l Cm Ct T M m0 m1 m2 m3 t0 t1 t2 t3 = m0 + t0 :=
  (feasible_cut h0 h1 h2 h3 ..).1

/-- moment priority: if the spread of the demanded motor forces fits in `F` (collective part `t`
    equal on all motors), the allocator returns the moment part plus ONE common shift -/
theorem moment_priority_0_cut (F l Cm Ct T : ℝ) (M : Fin 3 → ℝ) (m0 m1 m2 m3 t : ℝ)
    (hsp : mx (m0 + t) (m1 + t) (m2 + t) (m3 + t) - mn (m0 + t) (m1 + t) (m2 + t) (m3 + t) ≤ F) :
    Fp_sum_0_cut F l Cm Ct T M m0 m1 m2 m3 t t t t
      = m0 + (t + shift F (m0 + t) (m1 + t) (m2 + t) (m3 + t)) :=
  (moment_priority_cut hsp ..).1

/-- every allocated motor force lies in [0, F_max], for ANY demand and any constants -/
theorem bounds (F l Cm Ct T : ℝ) (M : Fin 3 → ℝ) (hF : 0 ≤ F) :
    (0 ≤ Fp_sum_0 F l Cm Ct T M ∧ Fp_sum_0 F l Cm Ct T M ≤ F)
    ∧ (0 ≤ Fp_sum_1 F l Cm Ct T M ∧ Fp_sum_1 F l Cm Ct T M ≤ F)
    ∧ (0 ≤ Fp_sum_2 F l Cm Ct T M ∧ Fp_sum_2 F l Cm Ct T M ≤ F)
    ∧ (0 ≤ Fp_sum_3 F l Cm Ct T M ∧ Fp_sum_3 F l Cm Ct T M ≤ F) := by
  rw [Fp_sum_0_cut_eq, Fp_sum_1_cut_eq, Fp_sum_2_cut_eq, Fp_sum_3_cut_eq]
  exact bounds_cut hF ..

theorem omega_cut_sqrt (F l Cm Ct T : ℝ) (M : Fin 3 → ℝ) (m0 m1 m2 m3 t0 t1 t2 t3 : ℝ) :
    omega_0_cut F l Cm Ct T M m0 m1 m2 m3 t0 t1 t2 t3
        = Real.sqrt (Fp_sum_0_cut F l Cm Ct T M m0 m1 m2 m3 t0 t1 t2 t3 / Ct)
    ∧ omega_1_cut F l Cm Ct T M m0 m1 m2 m3 t0 t1 t2 t3
        = Real.sqrt (Fp_sum_1_cut F l Cm Ct T M m0 m1 m2 m3 t0 t1 t2 t3 / Ct)
    ∧ omega_2_cut F l Cm Ct T M m0 m1 m2 m3 t0 t1 t2 t3
        = Real.sqrt (Fp_sum_2_cut F l Cm Ct T M m0 m1 m2 m3 t0 t1 t2 t3 / Ct)
    ∧ omega_3_cut F l Cm Ct T M m0 m1 m2 m3 t0 t1 t2 t3
        = Real.sqrt (Fp_sum_3_cut F l Cm Ct T M m0 m1 m2 m3 t0 t1 t2 t3 / Ct) := by
  refine ⟨?_, ?_, ?_, ?_⟩ <;> simp only [cas_defs, cas_real]

theorem sqrt_div_spec {ω y Ct : ℝ} (e : ω = Real.sqrt (y / Ct)) (hy : 0 ≤ y) (hCt : 0 < Ct) :
    ω = Real.sqrt (y / Ct) ∧ 0 ≤ y / Ct ∧ 0 ≤ ω :=
  ⟨e, div_nonneg hy hCt.le, e ▸ Real.sqrt_nonneg _⟩

/-- motor speeds: `omega = sqrt(Fp/Ct)` with a non-negative radicand (so the square root is the
    real one) and a non-negative value -/
theorem omega_spec (F l Cm Ct T : ℝ) (M : Fin 3 → ℝ) (hF : 0 ≤ F) (hCt : 0 < Ct) :
    (omega_0 F l Cm Ct T M = Real.sqrt (Fp_sum_0 F l Cm Ct T M / Ct)
      ∧ 0 ≤ Fp_sum_0 F l Cm Ct T M / Ct ∧ 0 ≤ omega_0 F l Cm Ct T M)
    ∧ (omega_1 F l Cm Ct T M = Real.sqrt (Fp_sum_1 F l Cm Ct T M / Ct)
      ∧ 0 ≤ Fp_sum_1 F l Cm Ct T M / Ct ∧ 0 ≤ omega_1 F l Cm Ct T M)
    ∧ (omega_2 F l Cm Ct T M = Real.sqrt (Fp_sum_2 F l Cm Ct T M / Ct)
      ∧ 0 ≤ Fp_sum_2 F l Cm Ct T M / Ct ∧ 0 ≤ omega_2 F l Cm Ct T M)
    ∧ (omega_3 F l Cm Ct T M = Real.sqrt (Fp_sum_3 F l Cm Ct T M / Ct)
      ∧ 0 ≤ Fp_sum_3 F l Cm Ct T M / Ct ∧ 0 ≤ omega_3 F l Cm Ct T M) := by
  rw [omega_0_cut_eq, omega_1_cut_eq, omega_2_cut_eq, omega_3_cut_eq,
    Fp_sum_0_cut_eq, Fp_sum_1_cut_eq, Fp_sum_2_cut_eq, Fp_sum_3_cut_eq]
  obtain ⟨e0, e1, e2, e3⟩ := omega_cut_sqrt ..
  obtain ⟨b0, b1, b2, b3⟩ := bounds_cut hF ..
  exact ⟨sqrt_div_spec e0 b0.1 hCt, sqrt_div_spec e1 b1.1 hCt, sqrt_div_spec e2 b2.1 hCt,
    sqrt_div_spec e3 b3.1 hCt⟩

/-- a jointly achievable (range-limited) demand is reproduced exactly — including when some
    motor sits exactly at 0 or exactly at F_max -/
theorem feasible (F l Cm Ct T : ℝ) (M : Fin 3 → ℝ)
    (h0 : 0 ≤ F_moment_0 F l Cm Ct T M + F_thrust_0 F l Cm Ct T M ∧ F_moment_0 F l Cm Ct T M + F_thrust_0 F l Cm Ct T M ≤ F)
    (h1 : 0 ≤ F_moment_1 F l Cm Ct T M + F_thrust_1 F l Cm Ct T M ∧ F_moment_1 F l Cm Ct T M + F_thrust_1 F l Cm Ct T M ≤ F)
    (h2 : 0 ≤ F_moment_2 F l Cm Ct T M + F_thrust_2 F l Cm Ct T M ∧ F_moment_2 F l Cm Ct T M + F_thrust_2 F l Cm Ct T M ≤ F)
    (h3 : 0 ≤ F_moment_3 F l Cm Ct T M + F_thrust_3 F l Cm Ct T M ∧ F_moment_3 F l Cm Ct T M + F_thrust_3 F l Cm Ct T M ≤ F) :
    Fp_sum_0 F l Cm Ct T M = F_moment_0 F l Cm Ct T M + F_thrust_0 F l Cm Ct T M
    ∧ Fp_sum_1 F l Cm Ct T M = F_moment_1 F l Cm Ct T M + F_thrust_1 F l Cm Ct T M
    ∧ Fp_sum_2 F l Cm Ct T M = F_moment_2 F l Cm Ct T M + F_thrust_2 F l Cm Ct T M
    ∧ Fp_sum_3 F l Cm Ct T M = F_moment_3 F l Cm Ct T M + F_thrust_3 F l Cm Ct T M := by
  rw [Fp_sum_0_cut_eq, Fp_sum_1_cut_eq, Fp_sum_2_cut_eq, Fp_sum_3_cut_eq]
  exact feasible_cut h0 h1 h2 h3 ..

theorem feasible_0 (F l Cm Ct T : ℝ) (M : Fin 3 → ℝ)
    (h0 : 0 ≤ F_moment_0 F l Cm Ct T M + F_thrust_0 F l Cm Ct T M ∧ F_moment_0 F l Cm Ct T M + F_thrust_0 F l Cm Ct T M ≤ F)
    (h1 : 0 ≤ F_moment_1 F l Cm Ct T M + F_thrust_1 F l Cm Ct T M ∧ F_moment_1 F l Cm Ct T M + F_thrust_1 F l Cm Ct T M ≤ F)
    (h2 : 0 ≤ F_moment_2 F l Cm Ct T M + F_thrust_2 F l Cm Ct T M ∧ F_moment_2 F l Cm Ct T M + F_thrust_2 F l Cm Ct T M ≤ F)
    (h3 : 0 ≤ F_moment_3 F l Cm Ct T M + F_thrust_3 F l Cm Ct T M ∧ F_moment_3 F l Cm Ct T M + F_thrust_3 F l Cm Ct T M ≤ F) :
    Fp_sum_0 F l Cm Ct T M = F_moment_0 F l Cm Ct T M + F_thrust_0 F l Cm Ct T M :=
  (feasible F l Cm Ct T M h0 h1 h2 h3).1

/-- any other common shift that keeps every motor in [0, F] moves the collective thrust at
    least as far from the demanded one -/
theorem shift_least (F m0 m1 m2 m3 t : ℝ) (τ' : ℝ)
    (h0 : 0 ≤ m0 + τ' ∧ m0 + τ' ≤ F) (h1 : 0 ≤ m1 + τ' ∧ m1 + τ' ≤ F)
    (h2 : 0 ≤ m2 + τ' ∧ m2 + τ' ≤ F) (h3 : 0 ≤ m3 + τ' ∧ m3 + τ' ≤ F) :
    |shift F (m0 + t) (m1 + t) (m2 + t) (m3 + t)| ≤ |τ' - t| := by
  rw [shift_eq]
  refine Sat.abs_shift_le (δ := τ' - t) ?_ ?_
  · have : t - τ' ≤ mn (m0 + t) (m1 + t) (m2 + t) (m3 + t) :=
      Sat.le_min4 (by linarith [h0.1]) (by linarith [h1.1]) (by linarith [h2.1]) (by linarith [h3.1])
    linarith
  · have : mx (m0 + t) (m1 + t) (m2 + t) (m3 + t) ≤ F - τ' + t :=
      Sat.max4_le (by linarith [h0.2]) (by linarith [h1.2]) (by linarith [h2.2]) (by linarith [h3.2])
    linarith

/-! ### the mixer: A is the inverse of the rotor geometry map G, on the real function -/

/-- thrust part: every motor gets a quarter of the range-limited thrust -/
theorem F_thrust_spec (F l Cm Ct T : ℝ) (M : Fin 3 → ℝ) :
    F_thrust_0 F l Cm Ct T M = (if 4 * F < T then 4 * F else if ¬ T < 0 then T else 0) / 4
    ∧ F_thrust_1 F l Cm Ct T M = F_thrust_0 F l Cm Ct T M
    ∧ F_thrust_2 F l Cm Ct T M = F_thrust_0 F l Cm Ct T M
    ∧ F_thrust_3 F l Cm Ct T M = F_thrust_0 F l Cm Ct T M := by
  refine ⟨?_, ?_, ?_, ?_⟩
  · simp only [cas_defs, cas_real]
    ring
  all_goals simp only [cas_defs, cas_real]

/-- range-limited moment: component-wise clamp to ±l·(4F)/2 -/
theorem M_sat_bounds (F l Cm Ct T : ℝ) (M : Fin 3 → ℝ) (hF : 0 ≤ F) (hl : 0 ≤ l) :
    (|M_sat_0 F l Cm Ct T M| ≤ l * (4 * F) / 2) ∧ (|M_sat_1 F l Cm Ct T M| ≤ l * (4 * F) / 2)
      ∧ (|M_sat_2 F l Cm Ct T M| ≤ l * (4 * F) / 2) := by
  refine ⟨?_, ?_, ?_⟩ <;> simp only [cas_defs, cas_real] <;> exact Sat.abs_clamp_le (by positivity) _

/-- an in-range moment demand is passed through unchanged -/
theorem M_sat_id (F l Cm Ct T : ℝ) (M : Fin 3 → ℝ)
    (h0 : |M 0| ≤ l * (4 * F) / 2) (h1 : |M 1| ≤ l * (4 * F) / 2) (h2 : |M 2| ≤ l * (4 * F) / 2) :
    M_sat_0 F l Cm Ct T M = M 0 ∧ M_sat_1 F l Cm Ct T M = M 1 ∧ M_sat_2 F l Cm Ct T M = M 2 := by
  rw [abs_le] at h0 h1 h2
  refine ⟨?_, ?_, ?_⟩ <;> simp only [cas_defs, cas_real]
  · exact Sat.clamp_id h0.1 h0.2
  · exact Sat.clamp_id h1.1 h1.2
  · exact Sat.clamp_id h2.1 h2.2

/-- the rotor geometry map applied to the moment part returns the range-limited moment and no
    thrust:  G = [[1,1,1,1],[-l,l,l,-l],[-l,l,-l,l],[-Cm,-Cm,Cm,Cm]] -/
theorem mixer_moment (F l Cm Ct T : ℝ) (M : Fin 3 → ℝ) (hl : l ≠ 0) (hCm : Cm ≠ 0) :
    F_moment_0 F l Cm Ct T M + F_moment_1 F l Cm Ct T M + F_moment_2 F l Cm Ct T M + F_moment_3 F l Cm Ct T M = 0
    ∧ l * (-F_moment_0 F l Cm Ct T M + F_moment_1 F l Cm Ct T M + F_moment_2 F l Cm Ct T M - F_moment_3 F l Cm Ct T M)
        = M_sat_0 F l Cm Ct T M
    ∧ l * (-F_moment_0 F l Cm Ct T M + F_moment_1 F l Cm Ct T M - F_moment_2 F l Cm Ct T M + F_moment_3 F l Cm Ct T M)
        = M_sat_1 F l Cm Ct T M
    ∧ Cm * (-F_moment_0 F l Cm Ct T M - F_moment_1 F l Cm Ct T M + F_moment_2 F l Cm Ct T M + F_moment_3 F l Cm Ct T M)
        = M_sat_2 F l Cm Ct T M := by
  refine ⟨?_, ?_, ?_, ?_⟩ <;> simp only [cas_defs, cas_real] <;> field_simp <;> ring

/-- **realised moment = demanded moment** whenever the moment alone is achievable: the rotor
    geometry map applied to the allocated forces gives back `M_sat` exactly (the common shift is
    annihilated by the moment rows), on the real function -/
theorem realised_moment (F l Cm Ct T : ℝ) (M : Fin 3 → ℝ) (hl : l ≠ 0) (hCm : Cm ≠ 0)
    (hsp : mx (F_moment_0 F l Cm Ct T M + F_thrust_0 F l Cm Ct T M) (F_moment_1 F l Cm Ct T M + F_thrust_0 F l Cm Ct T M)
              (F_moment_2 F l Cm Ct T M + F_thrust_0 F l Cm Ct T M) (F_moment_3 F l Cm Ct T M + F_thrust_0 F l Cm Ct T M)
          - mn (F_moment_0 F l Cm Ct T M + F_thrust_0 F l Cm Ct T M) (F_moment_1 F l Cm Ct T M + F_thrust_0 F l Cm Ct T M)
              (F_moment_2 F l Cm Ct T M + F_thrust_0 F l Cm Ct T M) (F_moment_3 F l Cm Ct T M + F_thrust_0 F l Cm Ct T M) ≤ F) :
    l * (-Fp_sum_0 F l Cm Ct T M + Fp_sum_1 F l Cm Ct T M + Fp_sum_2 F l Cm Ct T M - Fp_sum_3 F l Cm Ct T M)
        = M_sat_0 F l Cm Ct T M
    ∧ l * (-Fp_sum_0 F l Cm Ct T M + Fp_sum_1 F l Cm Ct T M - Fp_sum_2 F l Cm Ct T M + Fp_sum_3 F l Cm Ct T M)
        = M_sat_1 F l Cm Ct T M
    ∧ Cm * (-Fp_sum_0 F l Cm Ct T M - Fp_sum_1 F l Cm Ct T M + Fp_sum_2 F l Cm Ct T M + Fp_sum_3 F l Cm Ct T M)
        = M_sat_2 F l Cm Ct T M := by
  obtain ⟨_, e1, e2, e3⟩ := F_thrust_spec F l Cm Ct T M
  obtain ⟨_, g0, g1, g2⟩ := mixer_moment F l Cm Ct T M hl hCm
  obtain ⟨p0, p1, p2, p3⟩ := moment_priority_cut hsp l Cm Ct T M
  rw [Fp_sum_0_cut_eq, Fp_sum_1_cut_eq, Fp_sum_2_cut_eq, Fp_sum_3_cut_eq, e1, e2, e3, p0, p1, p2, p3,
    ← g0, ← g1, ← g2]
  exact ⟨by ring, by ring, by ring⟩

/-! ### non-vacuity: concrete demands meeting the hypotheses -/
example : (0:ℝ) ≤ 0 + 1 ∧ (0:ℝ) + 1 ≤ 4 := by norm_num
example : mx (1 + 1) (-1 + 1) (0 + 1) (0 + 1) - mn ((1:ℝ) + 1) (-1 + 1) (0 + 1) (0 + 1) ≤ 4 := by
  simp [mx, mn]; norm_num

end C13
