/-
  Props/C14.lean — attitude set-points: the Euler helper returns a unit quaternion of the same
  rotation (all angles, via the Shepperd theorem of C07); the flatness reference satisfies Euler's
  equation for the rates it returns, for every input (peeled program); structure of the returned
  thrust magnitude; the position controller and the SE_2(3) outer loop return, for EVERY input, a unit quaternion of a proper
  rotation whose third axis is the (guarded) normalised demanded force, with nT its norm (frame exposed by probes of the
  real body; the argument, `setpoint_of_frame`, is about variables and rests on Lib/Triad + the Shepperd theorem of C07,
  each program contributes the shapes of its probes); flatness references on their main branch.
-/
import GenM.Ref
import GenM.RefP
import Lib.Triad
import Props.C07

open Gen Rot Triad

namespace C14

/-! ## Euler (3-2-1) → quaternion helper: proper rotation for EVERY yaw, pitch, roll (gimbal poles included) -/
theorem e2q_spec (y p r : ℝ) : bezier.eulerB321_to_quat.q_vec y p r = SO3Quat.from_Euler.r_vec ![y, p, r] := by
  unfold bezier.eulerB321_to_quat.q_vec SO3Quat.from_Euler.r_vec
  lit_entries <;> simp only [cas_defs, cas_real, Matrix.cons_val]

theorem eulerB321_to_quat_proper (y p r : ℝ) :
    qnormSq (bezier.eulerB321_to_quat.q_vec y p r) = 1
      ∧ qmat (bezier.eulerB321_to_quat.q_vec y p r) = SO3Euler.toMatrix.M_mat ![y, p, r] := by
  rw [e2q_spec]
  obtain ⟨h1, h2⟩ := C07.Quat_from_Euler ![y, p, r]
  exact ⟨h1, by rw [← C07.SO3Quat_toMatrix_spec]; exact h2⟩

/-! ## flatness reference (mr_ref_traj): Euler's equation M = J ω' + ω × Jω for the returned rates,
    for every input — including the degenerate branches, since it is a statement about the outputs -/
open mr_ref_traj.mr_ref_traj in
theorem euler_equation (psi psi_dot psi_ddot : ℝ) (v_e a_e j_e s_e : Fin 3 → ℝ) (m g Jx Jy Jz Jxz : ℝ) :
    let w := mr_ref_traj.mr_ref_traj.omega_eb_b_vec psi psi_dot psi_ddot v_e a_e j_e s_e m g Jx Jy Jz Jxz
    let d := mr_ref_traj.mr_ref_traj.omega_dot_eb_b_vec psi psi_dot psi_ddot v_e a_e j_e s_e m g Jx Jy Jz Jxz
    mr_ref_traj.mr_ref_traj.M_b_0 psi psi_dot psi_ddot v_e a_e j_e s_e m g Jx Jy Jz Jxz
      = (Jx * d 0 + Jxz * d 2) + (w 1 * (Jxz * w 0 + Jz * w 2) - w 2 * (Jy * w 1))
    ∧ mr_ref_traj.mr_ref_traj.M_b_1 psi psi_dot psi_ddot v_e a_e j_e s_e m g Jx Jy Jz Jxz
      = Jy * d 1 + (w 2 * (Jx * w 0 + Jxz * w 2) - w 0 * (Jxz * w 0 + Jz * w 2))
    ∧ mr_ref_traj.mr_ref_traj.M_b_2 psi psi_dot psi_ddot v_e a_e j_e s_e m g Jx Jy Jz Jxz
      = (Jxz * d 0 + Jz * d 2) + (w 0 * (Jy * w 1) - w 1 * (Jx * w 0 + Jxz * w 2)) := by
  intro w d
  -- peel (`X_cut_eq`) and unfold the peeled bodies only: the rates stay opaque
  rw [M_b_0_cut_eq, M_b_1_cut_eq, M_b_2_cut_eq]
  refine ⟨?_, ?_, ?_⟩ <;>
    simp only [M_b_0_cut, M_b_1_cut, M_b_2_cut, cas_real, w, d, omega_eb_b_vec, omega_dot_eb_b_vec, Matrix.cons_val] <;> ring

/-- the returned thrust magnitude is ‖m (g e₃ − a)‖ clamped below at 1e-6 -/
theorem thrust_magnitude (psi psi_dot psi_ddot : ℝ) (v_e a_e j_e s_e : Fin 3 → ℝ) (m g Jx Jy Jz Jxz : ℝ) :
    mr_ref_traj.mr_ref_traj.T psi psi_dot psi_ddot v_e a_e j_e s_e m g Jx Jy Jz Jxz
      = max (Real.sqrt ((m * a_e 0) * (m * a_e 0) + (m * a_e 1) * (m * a_e 1) + (m * (g - a_e 2)) * (m * (g - a_e 2))))
          (4722366482869645 * 2 ^ (-72:ℤ)) := by
  simp only [cas_defs, cas_real]
  split_ifs with h
  · rw [max_eq_left h.le]
  · rw [max_eq_right (not_lt.mp h)]

/-! ## the two position controllers

    Both expose the same probes of their real body: T = demanded force, yt = heading angle, yB = body y axis, Rd = matrix
    handed to `SO3Quat.from_Matrix`, qr_wb = its result, nT; the `_cut` programs are the real body between those points
    (`X_cut_eq`, generated: an output is its `_cut` program at the probes).  What is proved depends only on how the probes hang
    together, so it is proved once, about variables; per program, three equations read the shapes off the `_cut` bodies
    with the probes left opaque. -/

/-- A set-point assembled as the controllers do it — `Rd` the triad of the guarded thrust axis and the guarded heading
    normal, `q` the Shepperd extraction of `Rd` — is a proper rotation with third column the thrust axis, and `q` is a unit
    quaternion of exactly that rotation, whatever the force and the heading. -/
theorem setpoint_of_frame {Rd : Matrix (Fin 3) (Fin 3) ℝ} {yB : Fin 3 → ℝ} {q : Fin 4 → ℝ} {T0 T1 T2 yt : ℝ}
    (hRd : Rd = frame yB (zAxis T0 T1 T2))
    (hyB : yB = yAxis (zAxis T0 T1 T2 0) (zAxis T0 T1 T2 1) (zAxis T0 T1 T2 2) (Real.cos yt) (Real.sin yt))
    (hq : q = SO3Quat.fromMatrix.r_vec fun i j => Rd i j) :
    IsRot Rd ∧ qnormSq q = 1 ∧ qmat q = Rd ∧ ∀ i, Rd i 2 = zAxis T0 T1 T2 i := by
  have hrot : IsRot Rd := by
    rw [hRd, hyB]; exact frame_yAxis_zAxis_isRot _ _ _ _ _ (Real.cos_sq_add_sin_sq yt)
  obtain ⟨h1, h2⟩ := C07.SO3Quat_fromMatrix Rd hrot
  rw [← hq] at h1 h2
  exact ⟨hrot, h1, h2, fun i => by rw [hRd, frame_apply_two]⟩

/-- on the main branch of the heading normal the body y axis is perpendicular to the commanded heading direction -/
theorem y_perp_heading_of_frame {Rd : Matrix (Fin 3) (Fin 3) ℝ} {yB z : Fin 3 → ℝ} {z0 z1 z2 yt : ℝ}
    (hRd : Rd = frame yB z) (hyB : yB = yAxis z0 z1 z2 (Real.cos yt) (Real.sin yt))
    (h : (1152921504606847:ℝ) * 2 ^ (-60:ℤ) < Real.sqrt (z2 * Real.sin yt * (z2 * Real.sin yt)
        + z2 * Real.cos yt * (z2 * Real.cos yt)
        + (z0 * Real.sin yt - z1 * Real.cos yt) * (z0 * Real.sin yt - z1 * Real.cos yt))) :
    dot3 (fun i => Rd i 1) ![Real.cos yt, Real.sin yt, 0] = 0 := by
  have hy : (fun i => Rd i 1) = yB := funext fun i => by rw [hRd, frame_apply_one]
  rw [hy, hyB]
  exact yAxis_perp_heading _ _ _ _ _ h

section position_control
variable (thrust_trim : ℝ) (pt_w vt_w at_w : Fin 3 → ℝ) (qc_wb : Fin 4 → ℝ) (p_w v_w : Fin 3 → ℝ) (z_i dt : ℝ)

local notation "PT" i => (rdd2.position_control_p.T_vec thrust_trim pt_w vt_w at_w qc_wb p_w v_w z_i dt) i
local notation "PYT" => rdd2.position_control_p.yt thrust_trim pt_w vt_w at_w qc_wb p_w v_w z_i dt
local notation "PRd" => rdd2.position_control_p.Rd_mat thrust_trim pt_w vt_w at_w qc_wb p_w v_w z_i dt
local notation "PyB" => rdd2.position_control_p.yB_vec thrust_trim pt_w vt_w at_w qc_wb p_w v_w z_i dt
local notation "Pq" => rdd2.position_control_p.qr_wb_vec thrust_trim pt_w vt_w at_w qc_wb p_w v_w z_i dt
local notation "PnT" => rdd2.position_control_p.nT thrust_trim pt_w vt_w at_w qc_wb p_w v_w z_i dt

open rdd2.position_control_p in
theorem position_control_frame : PRd = frame PyB (zAxis (PT 0) (PT 1) (PT 2)) := by
  -- the probes are indexed before `zAxis` is opened: afterwards `simp` would rewrite `T_vec … 0` in the guard but not in
  -- its `Decidable` instance
  simp only [T_vec, yB_vec, Rd_mat, frame, Matrix.cons_val]
  rw [zAxis_eq]
  simp only [Matrix.cons_val]
  -- entry by entry: peel (`X_cut_eq`) and unfold the peeled body only, so that the probes stay opaque; CasADi has
  -- multiplied into the branches of the guard
  lit_entries
  · rw [Rd_0_0_cut_eq]; simp only [Rd_0_0_cut, cas_real, mul_ite, mul_zero, mul_one]
  · rw [Rd_0_1_cut_eq]; simp only [Rd_0_1_cut]
  · rw [Rd_0_2_cut_eq]; simp only [Rd_0_2_cut, cas_real]
  · rw [Rd_1_0_cut_eq]; simp only [Rd_1_0_cut, cas_real, mul_ite, mul_zero, mul_one]
  · rw [Rd_1_1_cut_eq]; simp only [Rd_1_1_cut]
  · rw [Rd_1_2_cut_eq]; simp only [Rd_1_2_cut, cas_real]
  · rw [Rd_2_0_cut_eq]; simp only [Rd_2_0_cut, cas_real, mul_ite, mul_zero]
  · rw [Rd_2_1_cut_eq]; simp only [Rd_2_1_cut]
  · rw [Rd_2_2_cut_eq]; simp only [Rd_2_2_cut, cas_real]

open rdd2.position_control_p in
theorem position_control_yB : PyB = yAxis (zAxis (PT 0) (PT 1) (PT 2) 0) (zAxis (PT 0) (PT 1) (PT 2) 1) (zAxis (PT 0) (PT 1) (PT 2) 2) (Real.cos PYT) (Real.sin PYT) := by
  simp only [T_vec, yB_vec, Matrix.cons_val]
  -- peel, unfold the peeled bodies only and make the probes they read variables
  rw [yB_0_cut_eq, yB_1_cut_eq, yB_2_cut_eq]
  simp only [yB_0_cut, yB_1_cut, yB_2_cut]
  generalize T_0 thrust_trim pt_w vt_w at_w qc_wb p_w v_w z_i dt = T0, T_1 thrust_trim pt_w vt_w at_w qc_wb p_w v_w z_i dt = T1,
    T_2 thrust_trim pt_w vt_w at_w qc_wb p_w v_w z_i dt = T2, PYT = yt
  unfold yAxis zAxis
  -- in each combination of the two guards (zero thrust, heading parallel to the thrust) the unfolded program and
  -- `yAxis ∘ zAxis` are the same expression
  by_cases h : (1152921504606847:ℝ) * 2 ^ (-60:ℤ) < Real.sqrt (T0 * T0 + T1 * T1 + T2 * T2) <;>
    simp only [cas_real, h, if_true, if_false, not_true_eq_false, not_false_eq_true, ne_eq, one_ne_zero,
      Matrix.cons_val, mul_zero, zero_mul, sub_self, add_zero, zero_add, not_not] <;>
    split_ifs <;> rfl

open rdd2.position_control_p in
/-- the quaternion output is the library's Shepperd extraction applied to the exposed frame -/
theorem position_control_qr : Pq = SO3Quat.fromMatrix.r_vec (fun i j => PRd i j) := by
  simp only [qr_wb_vec, SO3Quat.fromMatrix.r_vec, Rd_mat, Matrix.of_apply]
  lit_entries
  · rw [qr_wb_0_cut_eq]; simp only [qr_wb_0_cut, SO3Quat.fromMatrix.r_0, cas_real, Matrix.cons_val]
  · rw [qr_wb_1_cut_eq]; simp only [qr_wb_1_cut, SO3Quat.fromMatrix.r_1, cas_real, Matrix.cons_val]
  · rw [qr_wb_2_cut_eq]; simp only [qr_wb_2_cut, SO3Quat.fromMatrix.r_2, cas_real, Matrix.cons_val]
  · rw [qr_wb_3_cut_eq]; simp only [qr_wb_3_cut, SO3Quat.fromMatrix.r_3, cas_real, Matrix.cons_val]

/-- **position_control**: for EVERY input (zero thrust, thrust parallel to the heading included) the attitude set-point is a proper
    rotation; the returned quaternion is a unit quaternion of exactly that rotation; its third column is the thrust axis
    (the normalised demanded force when ‖T‖ > 1e-3); nT is the norm of the demanded force -/
theorem position_control_setpoint :
    IsRot PRd ∧ qnormSq Pq = 1 ∧ qmat Pq = PRd
      ∧ (∀ i, PRd i 2 = zAxis (PT 0) (PT 1) (PT 2) i)
      ∧ PnT = Real.sqrt ((PT 0) * (PT 0) + (PT 1) * (PT 1) + (PT 2) * (PT 2)) := by
  obtain ⟨h1, h2, h3, h4⟩ :=
    setpoint_of_frame (position_control_frame thrust_trim pt_w vt_w at_w qc_wb p_w v_w z_i dt) (position_control_yB ..) (position_control_qr ..)
  exact ⟨h1, h2, h3, h4, rfl⟩

/-- above the zero-thrust guard the body z axis times ‖T‖ is the demanded force -/
theorem position_control_zaxis_is_force
    (h : (1152921504606847:ℝ) * 2 ^ (-60:ℤ) < Real.sqrt ((PT 0) * (PT 0) + (PT 1) * (PT 1) + (PT 2) * (PT 2))) (i : Fin 3) :
    PRd i 2 * PnT = ![PT 0, PT 1, PT 2] i := by
  obtain ⟨-, -, -, hcol, hn⟩ := position_control_setpoint thrust_trim pt_w vt_w at_w qc_wb p_w v_w z_i dt
  rw [hcol i, hn]
  exact zAxis_main _ _ _ h i

/-- on the main branch (‖zB × xC‖ > 1e-3) the body y axis is perpendicular to the commanded heading direction -/
theorem position_control_y_perp_heading
    (h : (1152921504606847:ℝ) * 2 ^ (-60:ℤ) < Real.sqrt (zAxis (PT 0) (PT 1) (PT 2) 2 * Real.sin PYT * (zAxis (PT 0) (PT 1) (PT 2) 2 * Real.sin PYT)
        + zAxis (PT 0) (PT 1) (PT 2) 2 * Real.cos PYT * (zAxis (PT 0) (PT 1) (PT 2) 2 * Real.cos PYT)
        + (zAxis (PT 0) (PT 1) (PT 2) 0 * Real.sin PYT - zAxis (PT 0) (PT 1) (PT 2) 1 * Real.cos PYT)
          * (zAxis (PT 0) (PT 1) (PT 2) 0 * Real.sin PYT - zAxis (PT 0) (PT 1) (PT 2) 1 * Real.cos PYT))) :
    dot3 (fun i => PRd i 1) ![Real.cos PYT, Real.sin PYT, 0] = 0 :=
  y_perp_heading_of_frame (position_control_frame thrust_trim pt_w vt_w at_w qc_wb p_w v_w z_i dt) (position_control_yB ..) h
end position_control

section se23_position_control
variable (thrust_trim : ℝ) (kp : Fin 3 → ℝ) (zeta : Fin 9 → ℝ) (at_w : Fin 3 → ℝ) (qc_wb : Fin 4 → ℝ) (z_i dt : ℝ)

local notation "PT" i => (loglinear.se23_position_control_p.T_vec thrust_trim kp zeta at_w qc_wb z_i dt) i
local notation "PYT" => loglinear.se23_position_control_p.yt thrust_trim kp zeta at_w qc_wb z_i dt
local notation "PRd" => loglinear.se23_position_control_p.Rd_mat thrust_trim kp zeta at_w qc_wb z_i dt
local notation "PyB" => loglinear.se23_position_control_p.yB_vec thrust_trim kp zeta at_w qc_wb z_i dt
local notation "Pq" => loglinear.se23_position_control_p.qr_wb_vec thrust_trim kp zeta at_w qc_wb z_i dt
local notation "PnT" => loglinear.se23_position_control_p.nT thrust_trim kp zeta at_w qc_wb z_i dt

open loglinear.se23_position_control_p in
theorem se23_position_control_frame : PRd = frame PyB (zAxis (PT 0) (PT 1) (PT 2)) := by
  -- the probes are indexed before `zAxis` is opened: afterwards `simp` would rewrite `T_vec … 0` in the guard but not in
  -- its `Decidable` instance
  simp only [T_vec, yB_vec, Rd_mat, frame, Matrix.cons_val]
  rw [zAxis_eq]
  simp only [Matrix.cons_val]
  -- entry by entry: peel (`X_cut_eq`) and unfold the peeled body only, so that the probes stay opaque; CasADi has
  -- multiplied into the branches of the guard
  lit_entries
  · rw [Rd_0_0_cut_eq]; simp only [Rd_0_0_cut, cas_real, mul_ite, mul_zero, mul_one]
  · rw [Rd_0_1_cut_eq]; simp only [Rd_0_1_cut]
  · rw [Rd_0_2_cut_eq]; simp only [Rd_0_2_cut, cas_real]
  · rw [Rd_1_0_cut_eq]; simp only [Rd_1_0_cut, cas_real, mul_ite, mul_zero, mul_one]
  · rw [Rd_1_1_cut_eq]; simp only [Rd_1_1_cut]
  · rw [Rd_1_2_cut_eq]; simp only [Rd_1_2_cut, cas_real]
  · rw [Rd_2_0_cut_eq]; simp only [Rd_2_0_cut, cas_real, mul_ite, mul_zero]
  · rw [Rd_2_1_cut_eq]; simp only [Rd_2_1_cut]
  · rw [Rd_2_2_cut_eq]; simp only [Rd_2_2_cut, cas_real]

open loglinear.se23_position_control_p in
theorem se23_position_control_yB : PyB = yAxis (zAxis (PT 0) (PT 1) (PT 2) 0) (zAxis (PT 0) (PT 1) (PT 2) 1) (zAxis (PT 0) (PT 1) (PT 2) 2) (Real.cos PYT) (Real.sin PYT) := by
  simp only [T_vec, yB_vec, Matrix.cons_val]
  -- peel, unfold the peeled bodies only and make the probes they read variables
  rw [yB_0_cut_eq, yB_1_cut_eq, yB_2_cut_eq]
  simp only [yB_0_cut, yB_1_cut, yB_2_cut]
  generalize T_0 thrust_trim kp zeta at_w qc_wb z_i dt = T0, T_1 thrust_trim kp zeta at_w qc_wb z_i dt = T1,
    T_2 thrust_trim kp zeta at_w qc_wb z_i dt = T2, PYT = yt
  unfold yAxis zAxis
  -- in each combination of the two guards (zero thrust, heading parallel to the thrust) the unfolded program and
  -- `yAxis ∘ zAxis` are the same expression
  by_cases h : (1152921504606847:ℝ) * 2 ^ (-60:ℤ) < Real.sqrt (T0 * T0 + T1 * T1 + T2 * T2) <;>
    simp only [cas_real, h, if_true, if_false, not_true_eq_false, not_false_eq_true, ne_eq, one_ne_zero,
      Matrix.cons_val, mul_zero, zero_mul, sub_self, add_zero, zero_add, not_not] <;>
    split_ifs <;> rfl

open loglinear.se23_position_control_p in
/-- the quaternion output is the library's Shepperd extraction applied to the exposed frame -/
theorem se23_position_control_qr : Pq = SO3Quat.fromMatrix.r_vec (fun i j => PRd i j) := by
  simp only [qr_wb_vec, SO3Quat.fromMatrix.r_vec, Rd_mat, Matrix.of_apply]
  lit_entries
  · rw [qr_wb_0_cut_eq]; simp only [qr_wb_0_cut, SO3Quat.fromMatrix.r_0, cas_real, Matrix.cons_val]
  · rw [qr_wb_1_cut_eq]; simp only [qr_wb_1_cut, SO3Quat.fromMatrix.r_1, cas_real, Matrix.cons_val]
  · rw [qr_wb_2_cut_eq]; simp only [qr_wb_2_cut, SO3Quat.fromMatrix.r_2, cas_real, Matrix.cons_val]
  · rw [qr_wb_3_cut_eq]; simp only [qr_wb_3_cut, SO3Quat.fromMatrix.r_3, cas_real, Matrix.cons_val]

/-- **se23_position_control**: for EVERY input (zero thrust, thrust parallel to the heading included) the attitude set-point is a proper
    rotation; the returned quaternion is a unit quaternion of exactly that rotation; its third column is the thrust axis
    (the normalised demanded force when ‖T‖ > 1e-3); nT is the norm of the demanded force -/
theorem se23_position_control_setpoint :
    IsRot PRd ∧ qnormSq Pq = 1 ∧ qmat Pq = PRd
      ∧ (∀ i, PRd i 2 = zAxis (PT 0) (PT 1) (PT 2) i)
      ∧ PnT = Real.sqrt ((PT 0) * (PT 0) + (PT 1) * (PT 1) + (PT 2) * (PT 2)) := by
  obtain ⟨h1, h2, h3, h4⟩ :=
    setpoint_of_frame (se23_position_control_frame thrust_trim kp zeta at_w qc_wb z_i dt) (se23_position_control_yB ..) (se23_position_control_qr ..)
  exact ⟨h1, h2, h3, h4, rfl⟩

/-- above the zero-thrust guard the body z axis times ‖T‖ is the demanded force -/
theorem se23_position_control_zaxis_is_force
    (h : (1152921504606847:ℝ) * 2 ^ (-60:ℤ) < Real.sqrt ((PT 0) * (PT 0) + (PT 1) * (PT 1) + (PT 2) * (PT 2))) (i : Fin 3) :
    PRd i 2 * PnT = ![PT 0, PT 1, PT 2] i := by
  obtain ⟨-, -, -, hcol, hn⟩ := se23_position_control_setpoint thrust_trim kp zeta at_w qc_wb z_i dt
  rw [hcol i, hn]
  exact zAxis_main _ _ _ h i

/-- on the main branch (‖zB × xC‖ > 1e-3) the body y axis is perpendicular to the commanded heading direction -/
theorem se23_position_control_y_perp_heading
    (h : (1152921504606847:ℝ) * 2 ^ (-60:ℤ) < Real.sqrt (zAxis (PT 0) (PT 1) (PT 2) 2 * Real.sin PYT * (zAxis (PT 0) (PT 1) (PT 2) 2 * Real.sin PYT)
        + zAxis (PT 0) (PT 1) (PT 2) 2 * Real.cos PYT * (zAxis (PT 0) (PT 1) (PT 2) 2 * Real.cos PYT)
        + (zAxis (PT 0) (PT 1) (PT 2) 0 * Real.sin PYT - zAxis (PT 0) (PT 1) (PT 2) 1 * Real.cos PYT)
          * (zAxis (PT 0) (PT 1) (PT 2) 0 * Real.sin PYT - zAxis (PT 0) (PT 1) (PT 2) 1 * Real.cos PYT))) :
    dot3 (fun i => PRd i 1) ![Real.cos PYT, Real.sin PYT, 0] = 0 :=
  y_perp_heading_of_frame (se23_position_control_frame thrust_trim kp zeta at_w qc_wb z_i dt) (se23_position_control_yB ..) h
end se23_position_control

/-! ## flatness reference (mr_ref_traj) on its main branch: ‖thrust‖ > 1e-6 and ‖z_b × x_c‖ > 1e-6.
    (The degenerate branches are recorded findings: thrust below the clamp leaves z_b non-unit, the y_h fallback is not
    perpendicular to z_b.) -/
section mr
variable (psi psi_dot psi_ddot : ℝ) (v_e a_e j_e s_e : Fin 3 → ℝ) (m g Jx Jy Jz Jxz : ℝ)

local notation "tol6" => ((4722366482869645:ℝ) * 2 ^ (-72:ℤ))
/-- the demanded force m (g e₃ − a) -/
def thrust (m g : ℝ) (a_e : Fin 3 → ℝ) : Fin 3 → ℝ := ![-(m * a_e 0), -(m * a_e 1), m * (g - a_e 2)]
noncomputable def zb (m g : ℝ) (a_e : Fin 3 → ℝ) : Fin 3 → ℝ := fun i => thrust m g a_e i / Real.sqrt (nsq (thrust m g a_e))
/-- (z_b × x_c)/‖z_b × x_c‖ with x_c = (cos ψ, sin ψ, 0) -/
noncomputable def yb (m g : ℝ) (a_e : Fin 3 → ℝ) (psi : ℝ) : Fin 3 → ℝ :=
  fun i => w (zb m g a_e) (Real.cos psi) (Real.sin psi) i / Real.sqrt (nsq (w (zb m g a_e) (Real.cos psi) (Real.sin psi)))

local notation "MC" => mr_ref_traj.mr_ref_traj.C_be_mat psi psi_dot psi_ddot v_e a_e j_e s_e m g Jx Jy Jz Jxz
local notation "MW" => mr_ref_traj.mr_ref_traj.omega_eb_b_vec psi psi_dot psi_ddot v_e a_e j_e s_e m g Jx Jy Jz Jxz
local notation "MT" => mr_ref_traj.mr_ref_traj.T psi psi_dot psi_ddot v_e a_e j_e s_e m g Jx Jy Jz Jxz

theorem thrust_nsq_shape : nsq (thrust m g a_e) = m * a_e 0 * (m * a_e 0) + m * a_e 1 * (m * a_e 1) + m * (g - a_e 2) * (m * (g - a_e 2)) := by
  simp [nsq, thrust]; ring

/-- `‖z_b × x_c‖²` in the shape the program's second guard has it -/
theorem w_nsq_shape (n : ℝ) : nsq (w (fun i => thrust m g a_e i / n) (Real.cos psi) (Real.sin psi))
      = m * (g - a_e 2) / n * Real.sin psi * (m * (g - a_e 2) / n * Real.sin psi)
        + m * (g - a_e 2) / n * Real.cos psi * (m * (g - a_e 2) / n * Real.cos psi)
        + (m * a_e 1 / n * Real.cos psi - m * a_e 0 / n * Real.sin psi)
          * (m * a_e 1 / n * Real.cos psi - m * a_e 0 / n * Real.sin psi) := by
  simp [nsq, w, thrust]; ring

theorem mr_frame_main
    (h1 : tol6 < Real.sqrt (nsq (thrust m g a_e)))
    (h2 : tol6 < Real.sqrt (nsq (w (zb m g a_e) (Real.cos psi) (Real.sin psi)))) :
    MC = frame (yb m g a_e psi) (zb m g a_e) := by
  unfold yb zb at *
  rw [thrust_nsq_shape] at h1 h2 ⊢
  rw [w_nsq_shape] at h2 ⊢
  simp only [cas_defs, cas_real, h1, h2, if_true, if_false, not_true_eq_false, not_false_eq_true, ne_eq, one_ne_zero, add_zero]
  generalize Real.sqrt (m * a_e 0 * (m * a_e 0) + m * a_e 1 * (m * a_e 1) + m * (g - a_e 2) * (m * (g - a_e 2))) = n
  generalize Real.sqrt _ = n'
  unfold frame
  lit_entries <;> simp only [w, thrust, Matrix.cons_val] <;> ring

/-- **mr_ref_traj, main branch**: proper rotation, body z axis = normalised demanded force, body y axis perpendicular to the
    heading vector, returned thrust = ‖m (g e₃ − a)‖ -/
theorem mr_setpoint_main
    (h1 : tol6 < Real.sqrt (nsq (thrust m g a_e)))
    (h2 : tol6 < Real.sqrt (nsq (w (zb m g a_e) (Real.cos psi) (Real.sin psi)))) :
    IsRot MC ∧ (∀ i, MC i 2 = thrust m g a_e i / Real.sqrt (nsq (thrust m g a_e)))
      ∧ dot3 (fun i => MC i 1) ![Real.cos psi, Real.sin psi, 0] = 0
      ∧ MT = Real.sqrt (nsq (thrust m g a_e)) := by
  have hn : Real.sqrt (nsq (thrust m g a_e)) ≠ 0 := (lt_trans (by norm_num) h1).ne'
  have hny : Real.sqrt (nsq (w (zb m g a_e) (Real.cos psi) (Real.sin psi))) ≠ 0 := (lt_trans (by norm_num) h2).ne'
  rw [mr_frame_main psi psi_dot psi_ddot v_e a_e j_e s_e m g Jx Jy Jz Jxz h1 h2]
  refine ⟨main_isRot _ _ _ _ (nsq_div_sqrt _ hn) (Real.sq_sqrt (nsq_nonneg _)) hny, fun i => frame_apply_two _ _ i, ?_, ?_⟩
  · rw [funext (frame_apply_one _ _)]
    exact main_y_perp_heading _ _ _ _
  · rw [thrust_magnitude, thrust_nsq_shape]
    exact max_eq_left (by rw [thrust_nsq_shape] at h1; exact h1.le)

/-- the returned roll and pitch rates: p = (m/‖thrust‖) j·y_b, q = −(m/‖thrust‖) j·x_b -/
theorem mr_rates_main
    (h1 : tol6 < Real.sqrt (nsq (thrust m g a_e)))
    (h2 : tol6 < Real.sqrt (nsq (w (zb m g a_e) (Real.cos psi) (Real.sin psi)))) :
    MW 0 = m / Real.sqrt (nsq (thrust m g a_e)) * dot3 j_e (yb m g a_e psi)
    ∧ MW 1 = -(m / Real.sqrt (nsq (thrust m g a_e)) * dot3 j_e (cross (yb m g a_e psi) (zb m g a_e))) := by
  unfold yb zb at *
  rw [thrust_nsq_shape] at h1 h2 ⊢
  rw [w_nsq_shape] at h2 ⊢
  change mr_ref_traj.mr_ref_traj.omega_eb_b_0 psi psi_dot psi_ddot v_e a_e j_e s_e m g Jx Jy Jz Jxz = _
    ∧ mr_ref_traj.mr_ref_traj.omega_eb_b_1 psi psi_dot psi_ddot v_e a_e j_e s_e m g Jx Jy Jz Jxz = _
  simp only [cas_defs, cas_real, h1, h2, if_true, if_false, not_true_eq_false, not_false_eq_true, ne_eq, one_ne_zero, add_zero]
  generalize Real.sqrt (m * a_e 0 * (m * a_e 0) + m * a_e 1 * (m * a_e 1) + m * (g - a_e 2) * (m * (g - a_e 2))) = n
  generalize Real.sqrt _ = n'
  constructor <;> simp only [w, thrust, dot3, cross, Matrix.cons_val] <;> ring

/-- **the rates are the true rotation rate of the thrust axis along the trajectory**: for any differentiable acceleration
    curve a(τ) with a'(t) = j, the thrust direction z_b(τ) = u(τ)/‖u(τ)‖, u = m (g e₃ − a), is differentiable at t and the
    returned p, q are −y_b·ż_b and x_b·ż_b -/
theorem mr_rates_true (a : ℝ → Fin 3 → ℝ) (t : ℝ) (ha : ∀ i, HasDerivAt (fun τ => a τ i) (j_e i) t) (hat : a t = a_e)
    (h1 : tol6 < Real.sqrt (nsq (thrust m g a_e)))
    (h2 : tol6 < Real.sqrt (nsq (w (zb m g a_e) (Real.cos psi) (Real.sin psi)))) :
    ∃ zd : Fin 3 → ℝ, (∀ i, HasDerivAt (fun τ => zb m g (a τ) i) (zd i) t)
      ∧ MW 0 = -dot3 (yb m g a_e psi) zd ∧ MW 1 = dot3 (cross (yb m g a_e psi) (zb m g a_e)) zd := by
  have hn0 : nsq (thrust m g a_e) ≠ 0 := (Real.sqrt_pos.mp (lt_trans (by norm_num) h1)).ne'
  -- u' = −m j
  have hu : ∀ i, HasDerivAt (fun τ => thrust m g (a τ) i) (![-(m * j_e 0), -(m * j_e 1), -(m * j_e 2)] i) t := by
    intro i; fin_cases i
    · show HasDerivAt (fun τ => -(m * a τ 0)) (-(m * j_e 0)) t
      exact ((ha 0).const_mul m).neg
    · show HasDerivAt (fun τ => -(m * a τ 1)) (-(m * j_e 1)) t
      exact ((ha 1).const_mul m).neg
    · show HasDerivAt (fun τ => m * (g - a τ 2)) (-(m * j_e 2)) t
      have := ((ha 2).const_sub g).const_mul m
      refine this.congr_deriv (by ring)
  have hd := hasDerivAt_direction (fun τ => thrust m g (a τ)) _ t hu (by simpa [hat] using hn0)
  simp only [hat] at hd
  have hyz : dot3 (yb m g a_e psi) (zb m g a_e) = 0 := dot3_div_left _ _ _ (w_perp_z _ _ _)
  have hx : dot3 (cross (yb m g a_e psi) (zb m g a_e)) (zb m g a_e) = 0 := by simp [dot3, cross]; ring
  refine ⟨fun i => (![-(m * j_e 0), -(m * j_e 1), -(m * j_e 2)] i - zb m g a_e i * dot3 (zb m g a_e) ![-(m * j_e 0), -(m * j_e 1), -(m * j_e 2)])
      / Real.sqrt (nsq (thrust m g a_e)), fun i => hd i, ?_, ?_⟩
  · rw [(rates_of_direction _ _ (zb m g a_e) _ _ hyz hx).1,
      (mr_rates_main psi psi_dot psi_ddot v_e a_e j_e s_e m g Jx Jy Jz Jxz h1 h2).1]
    simp [dot3]; ring
  · rw [(rates_of_direction _ _ (zb m g a_e) _ _ hyz hx).2,
      (mr_rates_main psi psi_dot psi_ddot v_e a_e j_e s_e m g Jx Jy Jz Jxz h1 h2).2]
    simp [dot3]; ring

/-- non-vacuity: hover (a = 0) with heading 0 at m = 2, g = 9.8 is on the main branch -/
example : tol6 < Real.sqrt (nsq (thrust 2 9.8 ![0, 0, 0])) := by
  have : nsq (thrust 2 9.8 ![0, 0, 0]) = 19.6 ^ 2 := by simp [nsq, thrust]; norm_num
  rw [this, Real.sqrt_sq (by norm_num)]; norm_num
end mr

end C14
