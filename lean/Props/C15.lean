/-
  Props/C15.lean — controller saturations as invariants of the caller-fed recursions, stick maps,
  and the zero-error property of the attitude laws.
-/
import GenM.RefP
import Props.C03
import Props.C15A
import Lib.Sat

open Gen

namespace C15

section rate
variable (kp ki kd i_max om omr i0 e0 de0 : Fin 3 → ℝ) (f dt : ℝ)

/-- one step: the integrator output (the clamp of i0 + e dt to ±i_max) is within ±i_max, whatever the previous state -/
theorem integrator_bound_0 (h : 0 ≤ i_max 0) :
    |rdd2.attitude_rate_control.i1_0 kp ki kd f i_max om omr i0 e0 de0 dt| ≤ i_max 0 := by
  simp only [cas_defs, cas_real]; exact Sat.abs_clamp_le h _
theorem integrator_bound_1 (h : 0 ≤ i_max 1) :
    |rdd2.attitude_rate_control.i1_1 kp ki kd f i_max om omr i0 e0 de0 dt| ≤ i_max 1 := by
  simp only [cas_defs, cas_real]; exact Sat.abs_clamp_le h _
theorem integrator_bound_2 (h : 0 ≤ i_max 2) :
    |rdd2.attitude_rate_control.i1_2 kp ki kd f i_max om omr i0 e0 de0 dt| ≤ i_max 2 := by
  simp only [cas_defs, cas_real]; exact Sat.abs_clamp_le h _

/-- the derivative-filter coefficient lies strictly between 0 and 1 whenever dt·f_cut > 0 -/
theorem alpha_range (h : 0 < dt * f) :
    0 < rdd2.attitude_rate_control.alpha kp ki kd f i_max om omr i0 e0 de0 dt
      ∧ rdd2.attitude_rate_control.alpha kp ki kd f i_max om omr i0 e0 de0 dt < 1 := by
  simp only [cas_defs, cas_real]
  -- 884279719003555·2⁻⁴⁷ is the double 2π of `2*ca.pi*dt*f_cut`
  have hx : 0 < 884279719003555 * (2:ℝ) ^ (-47:ℤ) * dt * f := by
    rw [mul_assoc]; exact mul_pos (by positivity) h
  exact ⟨div_pos hx (by linarith), (div_lt_one (by linarith)).mpr (by linarith)⟩

/-- the moment command is kp e + ki i1 + kd de1 with the filtered derivative -/
theorem law_0 :
    rdd2.attitude_rate_control.M_0 kp ki kd f i_max om omr i0 e0 de0 dt
      = kp 0 * rdd2.attitude_rate_control.e1_0 kp ki kd f i_max om omr i0 e0 de0 dt
        + ki 0 * rdd2.attitude_rate_control.i1_0 kp ki kd f i_max om omr i0 e0 de0 dt
        + kd 0 * rdd2.attitude_rate_control.de1_0 kp ki kd f i_max om omr i0 e0 de0 dt
    ∧ rdd2.attitude_rate_control.e1_0 kp ki kd f i_max om omr i0 e0 de0 dt = omr 0 - om 0
    ∧ rdd2.attitude_rate_control.de1_0 kp ki kd f i_max om omr i0 e0 de0 dt
        = rdd2.attitude_rate_control.alpha kp ki kd f i_max om omr i0 e0 de0 dt * ((omr 0 - om 0 - e0 0) / dt)
          + (1 - rdd2.attitude_rate_control.alpha kp ki kd f i_max om omr i0 e0 de0 dt) * de0 0 := by
  refine ⟨?_, ?_, ?_⟩ <;> simp only [cas_defs, cas_real]
end rate

/-- **invariant of the recursion**: after ANY non-empty sequence of steps, from ANY initial integrator state, with any
    measurements and step sizes, every component of the integrator is within ±i_max -/
theorem integrator_invariant_vec (kp ki kd i_max e0 de0 : Fin 3 → ℝ) (f : ℝ) (j : Fin 3) (h : 0 ≤ i_max j)
    (steps : List ((Fin 3 → ℝ) × (Fin 3 → ℝ) × ℝ)) (i_init : Fin 3 → ℝ) (hne : steps ≠ []) :
    |(steps.foldl (fun i s => rdd2.attitude_rate_control.i1_vec kp ki kd f i_max s.1 s.2.1 i e0 de0 s.2.2) i_init) j|
      ≤ i_max j := by
  induction steps using List.reverseRecOn with
  | nil => exact absurd rfl hne
  | append_singleton l s _ =>
    -- only the last step matters: its output is a clamp whatever the state before it
    rw [List.foldl_append]
    fin_cases j
    · exact integrator_bound_0 kp ki kd i_max s.1 s.2.1 _ e0 de0 f s.2.2 h
    · exact integrator_bound_1 kp ki kd i_max s.1 s.2.1 _ e0 de0 f s.2.2 h
    · exact integrator_bound_2 kp ki kd i_max s.1 s.2.1 _ e0 de0 f s.2.2 h

/-- its first component, with the step function `i1_vec` written out entry by entry -/
theorem integrator_invariant (kp ki kd i_max e0 de0 : Fin 3 → ℝ) (f : ℝ) (h : 0 ≤ i_max 0)
    (steps : List ((Fin 3 → ℝ) × (Fin 3 → ℝ) × ℝ)) (i_init : Fin 3 → ℝ) (hne : steps ≠ []) :
    |(steps.foldl (fun i s => fun k : Fin 3 =>
        if k = 0 then rdd2.attitude_rate_control.i1_0 kp ki kd f i_max s.1 s.2.1 i e0 de0 s.2.2
        else if k = 1 then rdd2.attitude_rate_control.i1_1 kp ki kd f i_max s.1 s.2.1 i e0 de0 s.2.2
        else rdd2.attitude_rate_control.i1_2 kp ki kd f i_max s.1 s.2.1 i e0 de0 s.2.2) i_init) 0| ≤ i_max 0 := by
  refine (congrArg (fun g => |(steps.foldl g i_init) 0|) ?_).trans_le
    (integrator_invariant_vec kp ki kd i_max e0 de0 f 0 h steps i_init hne)
  funext i s k; fin_cases k <;> rfl

theorem acro_linear (trim delta : ℝ) (st : Fin 4 → ℝ) :
    rdd2.input_acro.omega_0 trim delta st = 4716158501352293 * 2 ^ (-52:ℤ) * st 0
    ∧ rdd2.input_acro.omega_1 trim delta st = 4716158501352293 * 2 ^ (-52:ℤ) * st 1
    ∧ rdd2.input_acro.omega_2 trim delta st = 4716158501352293 * 2 ^ (-52:ℤ) * st 3
    ∧ rdd2.input_acro.thrust trim delta st = st 2 * delta + trim := by
  refine ⟨?_, ?_, ?_, ?_⟩ <;> simp only [cas_defs, cas_real]

/-- a roll stick in [-1,1] gives a roll-rate command within the limit (the double of `rollpitch_rate_max * deg2rad`, 60°/s) -/
theorem acro_bounded (trim delta : ℝ) (st : Fin 4 → ℝ) (h : |st 0| ≤ 1) :
    |rdd2.input_acro.omega_0 trim delta st| ≤ 4716158501352293 * 2 ^ (-52:ℤ) := by
  rw [(acro_linear trim delta st).1, abs_mul, abs_of_pos (by positivity)]
  exact mul_le_of_le_one_right (by positivity) h

section velocity
variable (dt psi : ℝ) (pwsp pw : Fin 3 → ℝ) (st : Fin 4 → ℝ) (reset : ℝ)

/-- the yaw set-point stays in [-π, π] for every previous value, stick and step -/
theorem yaw_wrapped :
    |rdd2.input_velocity.psi_sp1 dt psi pwsp pw st reset| ≤ Real.pi := by
  simp only [cas_defs, cas_real]
  -- the period is 2π as a double; half of it is below π
  refine (Sat.abs_remainder_le _ _ (by positivity)).trans ?_
  have := Real.pi_gt_d20
  norm_num at this ⊢
  linarith

/-- the position set-point is never farther than 2 m from the vehicle -/
theorem leash :
    (rdd2.input_velocity.pw_sp1_0 dt psi pwsp pw st reset - pw 0) ^ 2
      + (rdd2.input_velocity.pw_sp1_1 dt psi pwsp pw st reset - pw 1) ^ 2
      + (rdd2.input_velocity.pw_sp1_2 dt psi pwsp pw st reset - pw 2) ^ 2 ≤ 2 ^ 2 := by
  simp only [cas_defs, cas_real]
  exact Sat.leash _ _ _ _ _ _ 2 (by norm_num)

/-- a reset puts the set-point on the vehicle -/
theorem reset_on_vehicle (h : reset ≠ 0) :
    rdd2.input_velocity.pw_sp1_0 dt psi pwsp pw st reset = pw 0
    ∧ rdd2.input_velocity.pw_sp1_1 dt psi pwsp pw st reset = pw 1
    ∧ rdd2.input_velocity.pw_sp1_2 dt psi pwsp pw st reset = pw 2 := by
  refine ⟨?_, ?_, ?_⟩ <;> simp [cas_defs, cas_real, h]
end velocity

/-! ## position controllers (`rdd2.position_control`, then `loglinear.se23_position_control`): the feedback part of the demanded
    force (T minus trim and height-integrator terms) never exceeds 30 % of the weight, whatever the errors; it IS the unsaturated
    feedback when that is within the limit; the height integrator stays within its limit (the shipped limit is 0).
    `P` = feedback before saturation, exposed by a probe of the real body. -/

/-- the norm saturation `n > L ? L P/n : P`, n = ‖P‖, both position programs apply to the feedback force: what it adds to
    trim `c` and integrator term `d` has norm ≤ L -/
theorem sat_feedback_bound (P0 P1 P2 c d : ℝ) {L n : ℝ} (hL : 0 ≤ L) (hn : n = Real.sqrt (P0 * P0 + P1 * P1 + P2 * P2)) :
    (if L < n then L * P0 / n else P0) ^ 2 + (if L < n then L * P1 / n else P1) ^ 2
      + ((if L < n then L * P2 / n else P2) + c + d - c - d) ^ 2 ≤ L ^ 2 := by
  have h := Sat.leash 0 0 0 P0 P1 P2 L hL
  simp only [zero_add, sub_zero, ← hn] at h
  rwa [add_sub_right_comm, add_sub_cancel_right, add_sub_cancel_right]

/-- the clamp to ±0 as CasADi prints it -/
theorem clamp_zero (x : ℝ) : (if ¬0 < x then if ¬x < 0 then x else 0 else 0) = 0 := by
  split_ifs <;> linarith

section position
variable (thrust_trim : ℝ) (pt_w vt_w at_w : Fin 3 → ℝ) (qc_wb : Fin 4 → ℝ) (p_w v_w : Fin 3 → ℝ) (z_i dt : ℝ)
local notation "PP" i => (rdd2.position_control_p.P_vec thrust_trim pt_w vt_w at_w qc_wb p_w v_w z_i dt) i
local notation "PT" i => (rdd2.position_control_p.T_vec thrust_trim pt_w vt_w at_w qc_wb p_w v_w z_i dt) i

open rdd2.position_control_p in
/-- **position**: ‖T − (trim + k_i z_i) e₃‖ ≤ 0.3 m g for EVERY input (0.3·m·g = 6.5856 as the code's double) -/
theorem position_feedback_bound :
    (PT 0) ^ 2 + (PT 1) ^ 2 + ((PT 2) - thrust_trim - 3602879701896397 * 2 ^ (-56:ℤ) * z_i) ^ 2
      ≤ ((3707363213251393:ℝ) * 2 ^ (-49:ℤ)) ^ 2 := by
  -- peel (`X_cut_eq`) and unfold the peeled bodies only: what is left is the saturation of the probe `P`, which stays opaque.
  -- 3602879701896397·2⁻⁵⁶ is the code's `ki_z = 0.05`, 3707363213251393·2⁻⁴⁹ its `0.3*m*g`
  simp only [T_vec, Matrix.cons_val]
  rw [T_0_cut_eq, T_1_cut_eq, T_2_cut_eq]
  simp only [T_0_cut, T_1_cut, T_2_cut, cas_real]
  exact sat_feedback_bound _ _ _ _ _ (by positivity) rfl

open rdd2.position_control_p in
/-- within the limit the demanded force is feedback + trim + integrator term, unchanged -/
theorem position_feedback_id (h : Real.sqrt ((PP 0) * (PP 0) + (PP 1) * (PP 1) + (PP 2) * (PP 2)) ≤ (3707363213251393:ℝ) * 2 ^ (-49:ℤ)) :
    (PT 0) = (PP 0) ∧ (PT 1) = (PP 1) ∧ (PT 2) = (PP 2) + thrust_trim + 3602879701896397 * 2 ^ (-56:ℤ) * z_i := by
  simp only [T_vec, P_vec, Matrix.cons_val] at h ⊢
  rw [T_0_cut_eq, T_1_cut_eq, T_2_cut_eq]
  simp only [T_0_cut, T_1_cut, T_2_cut, cas_real]
  simp only [if_neg (not_lt.mpr h), and_self]

/-- the height integrator output stays within its limit (the shipped limit is 0, so the output is 0) -/
theorem position_height_integrator : rdd2.position_control_p.z_i_2 thrust_trim pt_w vt_w at_w qc_wb p_w v_w z_i dt = 0 := by
  simp only [cas_defs, cas_real]
  exact clamp_zero _
end position

section se23_position
variable (thrust_trim : ℝ) (kp : Fin 3 → ℝ) (zeta : Fin 9 → ℝ) (at_w : Fin 3 → ℝ) (qc_wb : Fin 4 → ℝ) (z_i dt : ℝ)
local notation "PP" i => (loglinear.se23_position_control_p.P_vec thrust_trim kp zeta at_w qc_wb z_i dt) i
local notation "PT" i => (loglinear.se23_position_control_p.T_vec thrust_trim kp zeta at_w qc_wb z_i dt) i

open loglinear.se23_position_control_p in
/-- **se23_position**: ‖T − (trim + k_i z_i) e₃‖ ≤ 0.3 m g for EVERY input (0.3·m·g = 6.5856 as the code's double) -/
theorem se23_position_feedback_bound :
    (PT 0) ^ 2 + (PT 1) ^ 2 + ((PT 2) - thrust_trim - 3602879701896397 * 2 ^ (-56:ℤ) * z_i) ^ 2
      ≤ ((3707363213251393:ℝ) * 2 ^ (-49:ℤ)) ^ 2 := by
  simp only [T_vec, Matrix.cons_val]
  rw [T_0_cut_eq, T_1_cut_eq, T_2_cut_eq]
  simp only [T_0_cut, T_1_cut, T_2_cut, cas_real]
  exact sat_feedback_bound _ _ _ _ _ (by positivity) rfl

open loglinear.se23_position_control_p in
/-- within the limit the demanded force is feedback + trim + integrator term, unchanged -/
theorem se23_position_feedback_id (h : Real.sqrt ((PP 0) * (PP 0) + (PP 1) * (PP 1) + (PP 2) * (PP 2)) ≤ (3707363213251393:ℝ) * 2 ^ (-49:ℤ)) :
    (PT 0) = (PP 0) ∧ (PT 1) = (PP 1) ∧ (PT 2) = (PP 2) + thrust_trim + 3602879701896397 * 2 ^ (-56:ℤ) * z_i := by
  simp only [T_vec, P_vec, Matrix.cons_val] at h ⊢
  rw [T_0_cut_eq, T_1_cut_eq, T_2_cut_eq]
  simp only [T_0_cut, T_1_cut, T_2_cut, cas_real]
  simp only [if_neg (not_lt.mpr h), and_self]

/-- the height integrator output stays within its limit (the shipped limit is 0, so the output is 0) -/
theorem se23_position_height_integrator : loglinear.se23_position_control_p.z_i_2 thrust_trim kp zeta at_w qc_wb z_i dt = 0 := by
  simp only [cas_defs, cas_real]
  exact clamp_zero _
end se23_position

section reach
open Rot RotExp SeriesLemmas
/-- the attitude law is the gain times the library's quaternion log of the error quaternion q⁻¹ ⊗ q_r -/
theorem attitude_law (kp : Fin 3 → ℝ) (q qr : Fin 4 → ℝ) (i : Fin 3) :
    rdd2.attitude_control.omega_vec kp q qr i = kp i * SO3Quat.log.r_vec (qmul (qconj q) qr) i := by
  obtain ⟨e0, e1, e2, e3⟩ := C15A.err_quat q qr
  -- entry i first; with the error quaternion in the program's shape, the program is kp i times its inlined copy of `SO3Quat.log`
  fin_cases i <;> simp only [rdd2.attitude_control.omega_vec, SO3Quat.log.r_vec, Fin.reduceFinMk, Matrix.cons_val] <;>
    simp only [cas_defs, cas_real, e0, e1, e2, e3]

/-- **applying the commanded rotation to the measured attitude reaches the reference** (unit gains): for unit q, q_r whose
    error quaternion e = q⁻¹ ⊗ q_r has half angle on the closed-form cells (`h0`, angle ≠ π, and `hc1`, implied by `hc2`, are carried but not needed),
    R(q) · R(exp ω) = R(q_r) -/
theorem attitude_reaches_reference (q qr : Fin 4 → ℝ) (hq : qnormSq q = 1) (hr : qnormSq qr = 1)
    (h0 : qmul (qconj q) qr 0 ≠ 0)
    (hc1 : eps ≤ Real.arccos |qmul (qconj q) qr 0|) (hc2 : eps ≤ Real.arccos |qmul (qconj q) qr 0| ^ 2) :
    qmat q * qmat (SO3Quat.exp.r_vec (rdd2.attitude_control.omega_vec (fun _ => 1) q qr)) = qmat qr := by
  have hw : rdd2.attitude_control.omega_vec (fun _ => 1) q qr = SO3Quat.log.r_vec (qmul (qconj q) qr) := by
    funext i; rw [attitude_law]; simp
  have hc : qnormSq (qconj q) = 1 := (qnormSq_qconj q).trans hq
  have he : qnormSq (qmul (qconj q) qr) = 1 := by rw [qnormSq_mul, hc, hr, one_mul]
  have he' : qmul (qconj q) qr 0 * qmul (qconj q) qr 0 + qmul (qconj q) qr 1 * qmul (qconj q) qr 1
      + qmul (qconj q) qr 2 * qmul (qconj q) qr 2 + qmul (qconj q) qr 3 * qmul (qconj q) qr 3 = 1 := by
    rw [← he, qnormSq]; ring
  rw [hw, C03.SO3Quat_exp_log_qmat _ he' hc2, qmat_mul, ← Matrix.mul_assoc, qmat_mul_conj, hq]
  simp

theorem log_scalar (e : Fin 4 → ℝ) (h1 : e 1 = 0) (h2 : e 2 = 0) (h3 : e 3 = 0) : SO3Quat.log.r_vec e = 0 := by
  funext k; fin_cases k <;> simp [cas_defs, cas_real, h1, h2, h3]

/-- parallel measured and reference quaternions (q_r = c q: the same rotation, c = ±1 on unit quaternions): zero error -/
theorem log_err_smul (q : Fin 4 → ℝ) (c : ℝ) : SO3Quat.log.r_vec (qmul (qconj q) (c • q)) = 0 := by
  apply log_scalar <;> simp [qmul, qconj] <;> ring

theorem attitude_zero_smul (kp : Fin 3 → ℝ) (q : Fin 4 → ℝ) (c : ℝ) (i : Fin 3) :
    rdd2.attitude_control.omega_vec kp q (c • q) i = 0 := by
  rw [attitude_law, log_err_smul, Pi.zero_apply, mul_zero]
end reach

/-! ## attitude law: zero when measured and reference attitude are the same rotation (q_r = ±q) -/
theorem attitude_zero_same (kp : Fin 3 → ℝ) (q : Fin 4 → ℝ) :
    rdd2.attitude_control.omega_0 kp q q = 0 ∧ rdd2.attitude_control.omega_1 kp q q = 0
      ∧ rdd2.attitude_control.omega_2 kp q q = 0 := by
  have h := attitude_zero_smul kp q 1
  rw [one_smul] at h
  exact ⟨h 0, h 1, h 2⟩
theorem attitude_zero_neg (kp : Fin 3 → ℝ) (q : Fin 4 → ℝ) :
    rdd2.attitude_control.omega_0 kp q (-q) = 0 ∧ rdd2.attitude_control.omega_1 kp q (-q) = 0
      ∧ rdd2.attitude_control.omega_2 kp q (-q) = 0 := by
  have h := attitude_zero_smul kp q (-1)
  rw [neg_one_smul] at h
  exact ⟨h 0, h 1, h 2⟩

end C15
