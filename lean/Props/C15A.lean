/-
  Props/C15A.lean — the log-linear SO(3) attitude law (`rdd2_loglinear.derive_so3_attitude_control`):
  for EVERY input the command is  J_l(e) · diag(kp) · e  with  e = log(q⁻¹ ⊗ q_r)  the library's QUATERNION
  log of the error quaternion (principal rotation vector, same for ±q_r — C03) and J_l the so(3) left
  Jacobian (C05).  Any other way of forming the error (matrix log, right-invariant error, other Jacobian)
  breaks this theorem.
-/
import GenM.Ctrl
import GenM.SO3
import Lib.Rot
open Gen Rot

namespace C15A

/-- q⁻¹ ⊗ q_r entry by entry, in the shape the attitude programs (this one and `rdd2.attitude_control`) compute it -/
theorem err_quat (q qr : Fin 4 → ℝ) :
    qmul (qconj q) qr 0 = q 0 * qr 0 + q 1 * qr 1 + q 2 * qr 2 + q 3 * qr 3
    ∧ qmul (qconj q) qr 1 = q 0 * qr 1 - q 1 * qr 0 + q 3 * qr 2 - q 2 * qr 3
    ∧ qmul (qconj q) qr 2 = q 0 * qr 2 - (q 2 * qr 0 + q 3 * qr 1) + q 1 * qr 3
    ∧ qmul (qconj q) qr 3 = q 2 * qr 1 - q 3 * qr 0 - q 1 * qr 2 + q 0 * qr 3 := by
  refine ⟨?_, ?_, ?_, ?_⟩ <;> simp [qmul, qconj] <;> ring

theorem so3_attitude_law (kp : Fin 3 → ℝ) (q qr : Fin 4 → ℝ) (i : Fin 3) :
    loglinear.so3_attitude_control.omega_vec kp q qr i
      = (so3.left_jacobian.M_mat (SO3Quat.log.r_vec (qmul (qconj q) qr))).mulVec
          (fun j => kp j * SO3Quat.log.r_vec (qmul (qconj q) qr) j) i := by
  obtain ⟨e0, e1, e2, e3⟩ := err_quat q qr
  -- r = log of the error quaternion, as a variable: its entries stand for the program's inlined copies of `SO3Quat.log`
  generalize hr : SO3Quat.log.r_vec (qmul (qconj q) qr) = r
  have r0 : SO3Quat.log.r_0 (qmul (qconj q) qr) = r 0 := congrFun hr 0
  have r1 : SO3Quat.log.r_1 (qmul (qconj q) qr) = r 1 := congrFun hr 1
  have r2 : SO3Quat.log.r_2 (qmul (qconj q) qr) = r 2 := congrFun hr 2
  simp only [cas_defs, cas_real, e0, e1, e2, e3] at r0 r1 r2
  -- entry i first (so that only one output program is unfolded per case): omega_i = Σⱼ J_l(r)ᵢⱼ kpⱼ rⱼ;
  -- what is left of the program is a polynomial in r, kp and the two series values at |r|²
  fin_cases i <;>
    simp only [loglinear.so3_attitude_control.omega_vec, so3.left_jacobian.M_mat, Matrix.mulVec, dotProduct,
      Fin.sum_univ_three, Fin.reduceFinMk, Matrix.cons_val, Matrix.of_apply] <;>
    simp only [cas_defs, cas_real, r0, r1, r2] <;> ring

end C15A
