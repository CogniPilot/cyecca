/-
  Props/C15B.lean — the log-linear SO(3) attitude law with a scalar gain commands the gain times the rotation
  vector of the attitude error, and (gain 1) applying it to the measured attitude reaches the reference.
  From Props/C15A (omega = J_l(e) diag(kp) e), the identity J_l(x) x = x of the translated so(3) left Jacobian
  (for every value of its series coefficients), and C15.attitude_reaches_reference / C03.
-/
import Props.C05B
import Props.C15

open Gen Rot

namespace C15B

/-- the so(3) left Jacobian fixes its own argument: J_l(x) x = x, for every x -/
theorem so3_left_jacobian_fix (x : Fin 3 → ℝ) : (so3.left_jacobian.M_mat x).mulVec x = x :=
  C05B.so3_jl_fix x

/-- scalar gain k: the command is k times the library's quaternion log of q⁻¹ ⊗ q_r -/
theorem so3_attitude_scalar_gain (k : ℝ) (q qr : Fin 4 → ℝ) (i : Fin 3) :
    loglinear.so3_attitude_control.omega_vec (fun _ => k) q qr i
      = k * SO3Quat.log.r_vec (qmul (qconj q) qr) i := by
  rw [C15A.so3_attitude_law]
  have h : (fun j => k * SO3Quat.log.r_vec (qmul (qconj q) qr) j) = k • SO3Quat.log.r_vec (qmul (qconj q) qr) := by
    funext j; simp
  rw [h, Matrix.mulVec_smul, so3_left_jacobian_fix]
  simp

/-- the two shipped attitude laws agree for equal scalar gains -/
theorem so3_attitude_eq_rdd2 (k : ℝ) (q qr : Fin 4 → ℝ) :
    loglinear.so3_attitude_control.omega_vec (fun _ => k) q qr
      = rdd2.attitude_control.omega_vec (fun _ => k) q qr := by
  funext i; rw [so3_attitude_scalar_gain, C15.attitude_law]

/-- **applying the commanded rotation (gain 1) to the measured attitude reaches the reference** — log-linear SO(3) law,
    unit q, q_r, closed-form cells (same hypotheses as `C15.attitude_reaches_reference`, `h0` included) -/
theorem so3_attitude_reaches_reference (q qr : Fin 4 → ℝ) (hq : qnormSq q = 1) (hr : qnormSq qr = 1)
    (h0 : qmul (qconj q) qr 0 ≠ 0)
    (hc1 : SeriesLemmas.eps ≤ Real.arccos |qmul (qconj q) qr 0|) (hc2 : SeriesLemmas.eps ≤ Real.arccos |qmul (qconj q) qr 0| ^ 2) :
    qmat q * qmat (SO3Quat.exp.r_vec (loglinear.so3_attitude_control.omega_vec (fun _ => 1) q qr)) = qmat qr := by
  rw [so3_attitude_eq_rdd2]
  exact C15.attitude_reaches_reference q qr hq hr h0 hc1 hc2

end C15B
