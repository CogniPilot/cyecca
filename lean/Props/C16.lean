/-
  Props/C16.lean — rigid-body invariants of the quadrotor model `cyecca.models.quadrotor`.
  State x = (p[0:3], v_b[3:6], q[6:10], ω_b[10:13], ω_motor[13:17]); input u = motor commands;
  parameters p: tau_up 0, tau_down 1, dir 2..5, l 6..9, theta 10..13, CT 14, CM 15, Cl_p 16,
  Cm_q 17, Cn_r 18, CD0 19, S 20, rho 21, g 22, m 23, Jx 24, Jy 25, Jz 26, noise powers 27..38.
  All theorems are for symbolic parameters (not only the defaults).
-/
import GenM.Quad
import Lib.Rot

open Gen Rot Matrix

namespace C16

noncomputable abbrev xdot (x : Fin 17 → ℝ) (u : Fin 4 → ℝ) (p : Fin 39 → ℝ) : Fin 17 → ℝ :=
  quadrotor.f.x_dot_vec x u p

/-! ## attitude kinematics preserve the quaternion norm: q · q' = 0 for EVERY state -/
theorem quat_norm_preserved (x : Fin 17 → ℝ) (u : Fin 4 → ℝ) (p : Fin 39 → ℝ) :
    x 6 * quadrotor.f.x_dot_6 x u p + x 7 * quadrotor.f.x_dot_7 x u p
      + x 8 * quadrotor.f.x_dot_8 x u p + x 9 * quadrotor.f.x_dot_9 x u p = 0 := by
  simp only [cas_defs, cas_real]; ring

/-- the quaternion derivative is ½ q ⊗ (0, ω): body-frame kinematics R' = R [ω]× -/
theorem quat_kinematics (x : Fin 17 → ℝ) (u : Fin 4 → ℝ) (p : Fin 39 → ℝ) :
    ![quadrotor.f.x_dot_6 x u p, quadrotor.f.x_dot_7 x u p, quadrotor.f.x_dot_8 x u p, quadrotor.f.x_dot_9 x u p]
      = (1 / 2 : ℝ) • qmul ![x 6, x 7, x 8, x 9] ![0, x 10, x 11, x 12] := by
  simp only [qmul, smul_cons, smul_empty, smul_eq_mul, cons_val]
  lit_entries <;> simp only [cas_defs, cas_real] <;> ring

/-- position kinematics: p' = R(q) v_b -/
theorem position_kinematics (x : Fin 17 → ℝ) (u : Fin 4 → ℝ) (p : Fin 39 → ℝ) :
    ![quadrotor.f.x_dot_0 x u p, quadrotor.f.x_dot_1 x u p, quadrotor.f.x_dot_2 x u p]
      = (qmat ![x 6, x 7, x 8, x 9]).mulVec ![x 3, x 4, x 5] := by
  simp only [qmat, cons_val, cons_mulVec, empty_mulVec, cons_dotProduct_cons, dotProduct_of_isEmpty, add_zero]
  lit_entries <;> simp only [cas_defs, cas_real] <;> ring

/-! ## motors: first-order relaxation toward the command, spin-up / spin-down time constant -/
theorem motor_0 (x : Fin 17 → ℝ) (u : Fin 4 → ℝ) (p : Fin 39 → ℝ) :
    quadrotor.f.x_dot_13 x u p = (if 0 < u 0 - x 13 then 1 / p 0 else 1 / p 1) * (u 0 - x 13) := by
  simp only [cas_defs, cas_real]
theorem motor_1 (x : Fin 17 → ℝ) (u : Fin 4 → ℝ) (p : Fin 39 → ℝ) :
    quadrotor.f.x_dot_14 x u p = (if 0 < u 1 - x 14 then 1 / p 0 else 1 / p 1) * (u 1 - x 14) := by
  simp only [cas_defs, cas_real]
theorem motor_2 (x : Fin 17 → ℝ) (u : Fin 4 → ℝ) (p : Fin 39 → ℝ) :
    quadrotor.f.x_dot_15 x u p = (if 0 < u 2 - x 15 then 1 / p 0 else 1 / p 1) * (u 2 - x 15) := by
  simp only [cas_defs, cas_real]
theorem motor_3 (x : Fin 17 → ℝ) (u : Fin 4 → ℝ) (p : Fin 39 → ℝ) :
    quadrotor.f.x_dot_16 x u p = (if 0 < u 3 - x 16 then 1 / p 0 else 1 / p 1) * (u 3 - x 16) := by
  simp only [cas_defs, cas_real]

/-- a motor speed moves toward its command and never overshoots in sign (monotone relaxation) -/
theorem motor_monotone (c w tu td : ℝ) (htu : 0 < tu) (htd : 0 < td) :
    (w < c → 0 < (if 0 < c - w then 1 / tu else 1 / td) * (c - w)
              ∧ (if 0 < c - w then 1 / tu else 1 / td) * (c - w) = (c - w) / tu)
    ∧ (c < w → (if 0 < c - w then 1 / tu else 1 / td) * (c - w) < 0
              ∧ (if 0 < c - w then 1 / tu else 1 / td) * (c - w) = (c - w) / td)
    ∧ (c = w → (if 0 < c - w then 1 / tu else 1 / td) * (c - w) = 0) := by
  refine ⟨fun h => ?_, fun h => ?_, fun h => ?_⟩
  · have hp : 0 < c - w := by linarith
    rw [if_pos hp]
    exact ⟨by positivity, by ring⟩
  · have hn : ¬ 0 < c - w := by linarith
    rw [if_neg hn]
    exact ⟨mul_neg_of_pos_of_neg (by positivity) (by linarith), by ring⟩
  · rw [h, sub_self, mul_zero]

/-! ## Newton–Euler: net force and moment are the sum over rotors (+ ground, drag, gravity) -/

/-- rotor thrusts -/
def thrust (x : Fin 17 → ℝ) (p : Fin 39 → ℝ) (i : Fin 4) : ℝ := p 14 * (x (13 + i.castLE (by omega)) * x (13 + i.castLE (by omega)))

/-- Euler's equation: J ω' + ω × Jω = Σ_i [ r_i × T_i ẑ − CM dir_i T_i ẑ + (Cl, Cm, Cn) S l_i ] -/
theorem euler_equation (x : Fin 17 → ℝ) (u : Fin 4 → ℝ) (p : Fin 39 → ℝ)
    (hJx : p 24 ≠ 0) (hJy : p 25 ≠ 0) (hJz : p 26 ≠ 0) :
    p 24 * quadrotor.f.x_dot_10 x u p + (x 11 * (p 26 * x 12) - x 12 * (p 25 * x 11))
      = (p 6 * Real.sin (p 10) * (p 14 * (x 13 * x 13)) + p 7 * Real.sin (p 11) * (p 14 * (x 14 * x 14))
          + p 8 * Real.sin (p 12) * (p 14 * (x 15 * x 15)) + p 9 * Real.sin (p 13) * (p 14 * (x 16 * x 16)))
        + p 16 * x 10 * p 20 * (p 6 + p 7 + p 8 + p 9)
    ∧ p 25 * quadrotor.f.x_dot_11 x u p + (x 12 * (p 24 * x 10) - x 10 * (p 26 * x 12))
      = -(p 6 * Real.cos (p 10) * (p 14 * (x 13 * x 13)) + p 7 * Real.cos (p 11) * (p 14 * (x 14 * x 14))
          + p 8 * Real.cos (p 12) * (p 14 * (x 15 * x 15)) + p 9 * Real.cos (p 13) * (p 14 * (x 16 * x 16)))
        + p 17 * x 11 * p 20 * (p 6 + p 7 + p 8 + p 9)
    ∧ p 26 * quadrotor.f.x_dot_12 x u p + (x 10 * (p 25 * x 11) - x 11 * (p 24 * x 10))
      = -(p 15 * (p 2 * (p 14 * (x 13 * x 13)) + p 3 * (p 14 * (x 14 * x 14))
          + p 4 * (p 14 * (x 15 * x 15)) + p 5 * (p 14 * (x 16 * x 16))))
        + p 18 * x 12 * p 20 * (p 6 + p 7 + p 8 + p 9) := by
  refine ⟨?_, ?_, ?_⟩ <;>
    simp only [cas_defs, cas_real, mul_div_cancel₀ _ hJx, mul_div_cancel₀ _ hJy, mul_div_cancel₀ _ hJz] <;> ring

/-- zero net moment for equal rotor speeds on a symmetric frame (arms balance, spin directions
    cancel) at zero body rate: ω' = 0 -/
theorem zero_moment_symmetric (x : Fin 17 → ℝ) (u : Fin 4 → ℝ) (p : Fin 39 → ℝ)
    (hJx : p 24 ≠ 0) (hJy : p 25 ≠ 0) (hJz : p 26 ≠ 0)
    (hw : x 10 = 0 ∧ x 11 = 0 ∧ x 12 = 0)
    (heq : x 14 = x 13 ∧ x 15 = x 13 ∧ x 16 = x 13)
    (hsin : p 6 * Real.sin (p 10) + p 7 * Real.sin (p 11) + p 8 * Real.sin (p 12) + p 9 * Real.sin (p 13) = 0)
    (hcos : p 6 * Real.cos (p 10) + p 7 * Real.cos (p 11) + p 8 * Real.cos (p 12) + p 9 * Real.cos (p 13) = 0)
    (hdir : p 2 + p 3 + p 4 + p 5 = 0) :
    quadrotor.f.x_dot_10 x u p = 0 ∧ quadrotor.f.x_dot_11 x u p = 0 ∧ quadrotor.f.x_dot_12 x u p = 0 := by
  obtain ⟨e0, e1, e2⟩ := euler_equation x u p hJx hJy hJz
  obtain ⟨w0, w1, w2⟩ := hw
  obtain ⟨q1, q2, q3⟩ := heq
  rw [w0, w1, w2, q1, q2, q3] at e0 e1 e2
  refine ⟨?_, ?_, ?_⟩
  · have : p 24 * quadrotor.f.x_dot_10 x u p = 0 := by
      linear_combination e0 + (p 14 * (x 13 * x 13)) * hsin
    exact (mul_eq_zero.mp this).resolve_left hJx
  · have : p 25 * quadrotor.f.x_dot_11 x u p = 0 := by
      linear_combination e1 - (p 14 * (x 13 * x 13)) * hcos
    exact (mul_eq_zero.mp this).resolve_left hJy
  · have : p 26 * quadrotor.f.x_dot_12 x u p = 0 := by
      linear_combination e2 - (p 15 * (p 14 * (x 13 * x 13))) * hdir
    exact (mul_eq_zero.mp this).resolve_left hJz

/-- contact force of the ground (a spring-damper below height 0) in the world frame, from the height `h` and the
    world-frame velocity `vw` -/
noncomputable def groundForce (h : ℝ) (vw : Fin 3 → ℝ) : Fin 3 → ℝ :=
  if h < 0 then ![-1000 * vw 0, -1000 * vw 1, -1000 * h - 1000 * vw 2] else 0

/-- direction of the drag: along the body-frame velocity `v`, the body x axis when `v` is (almost) zero; the tolerance is
    the double 1e-5 of quadrotor.py's `fabs(V) > 1e-5` -/
noncomputable def windAxis (v : Fin 3 → ℝ) : Fin 3 → ℝ :=
  if 5902958103587057 * (2:ℝ) ^ (-69:ℤ) < Real.sqrt (v 0 * v 0 + v 1 * v 1 + v 2 * v 2) then
    ![v 0 / Real.sqrt (v 0 * v 0 + v 1 * v 1 + v 2 * v 2), v 1 / Real.sqrt (v 0 * v 0 + v 1 * v 1 + v 2 * v 2),
      v 2 / Real.sqrt (v 0 * v 0 + v 1 * v 1 + v 2 * v 2)]
  else ![1, 0, 0]

/-- net force in the body frame for attitude matrix `R`, height `h`, body-frame velocity `v` and total rotor thrust `T`:
    ground contact − drag + thrust + weight.  The state enters the translational dynamics only through these four. -/
noncomputable def bodyForce (p : Fin 39 → ℝ) (R : Matrix (Fin 3) (Fin 3) ℝ) (h : ℝ) (v : Fin 3 → ℝ) (T : ℝ) :
    Fin 3 → ℝ :=
  R.transpose.mulVec (groundForce h (R.mulVec v))
    - (p 19 * (1 / 2 * p 21 * (v 0 * v 0 + v 1 * v 1 + v 2 * v 2)) * p 20) • windAxis v
    + ![0, 0, T] + R.transpose.mulVec ![0, 0, -(p 23 * p 22)]

theorem groundForce_eq_smul (h : ℝ) (vw : Fin 3 → ℝ) :
    groundForce h vw = if h < 0 then (-1000 : ℝ) • (vw + h • ![0, 0, 1]) else 0 := by
  unfold groundForce
  split_ifs
  · funext k
    fin_cases k <;>
      simp only [Fin.zero_eta, Fin.mk_one, Fin.reduceFinMk, Pi.smul_apply, Pi.add_apply, smul_eq_mul, cons_val] <;> ring
  · rfl

theorem mulVec_groundForce (Z : Matrix (Fin 3) (Fin 3) ℝ) (hz : Z *ᵥ ![0, 0, 1] = ![0, 0, 1]) (h : ℝ)
    (vw : Fin 3 → ℝ) : Z *ᵥ groundForce h vw = groundForce h (Z *ᵥ vw) := by
  rw [groundForce_eq_smul, groundForce_eq_smul]
  split_ifs
  · rw [mulVec_smul, mulVec_add, mulVec_smul, hz]
  · exact mulVec_zero Z

/-- the body-frame force does not change when the world frame is turned about the vertical: `Z` orthogonal with `Z ẑ = ẑ` -/
theorem bodyForce_mul_left (p : Fin 39 → ℝ) (Z R : Matrix (Fin 3) (Fin 3) ℝ) (hZ : Zᵀ * Z = 1)
    (hz : Z *ᵥ ![0, 0, 1] = ![0, 0, 1]) (h : ℝ) (v : Fin 3 → ℝ) (T : ℝ) :
    bodyForce p (Z * R) h v T = bodyForce p R h v T := by
  have cancel (y : Fin 3 → ℝ) : Zᵀ *ᵥ (Z *ᵥ y) = y := by rw [mulVec_mulVec, hZ, one_mulVec]
  have weight (t : ℝ) : Zᵀ *ᵥ ![0, 0, t] = ![0, 0, t] := by
    have e : (![0, 0, t] : Fin 3 → ℝ) = t • ![0, 0, 1] := by simp
    rw [e, mulVec_smul, ← hz, cancel, hz]
  rw [bodyForce, bodyForce, transpose_mul, ← mulVec_mulVec, ← mulVec_mulVec, ← mulVec_mulVec,
    ← mulVec_groundForce Z hz, cancel, weight]

/-- the translational dynamics as the program computes them, v' = F / m − ω × v; no hypothesis on the mass -/
theorem body_accel (x : Fin 17 → ℝ) (u : Fin 4 → ℝ) (p : Fin 39 → ℝ) :
    ![quadrotor.f.x_dot_3 x u p, quadrotor.f.x_dot_4 x u p, quadrotor.f.x_dot_5 x u p]
      = (p 23)⁻¹ • bodyForce p (qmat ![x 6, x 7, x 8, x 9]) (x 2) ![x 3, x 4, x 5]
          (p 14 * (x 13 * x 13) + p 14 * (x 14 * x 14) + p 14 * (x 15 * x 15) + p 14 * (x 16 * x 16))
        - cross ![x 10, x 11, x 12] ![x 3, x 4, x 5] := by
  funext k
  -- ground contact yes/no × drag along v / fallback axis.  The two conditions are named and split only after both
  -- sides are scalar expressions in the `x i`: `simp` rewrites `![x 3, x 4, x 5] 0` inside a condition but not inside
  -- its `Decidable` instance, after which `split_ifs` no longer takes the conditions of the two sides for the same
  fin_cases k <;>
    simp only [bodyForce, groundForce, windAxis, cross, Pi.sub_apply, Pi.add_apply, Pi.smul_apply, smul_eq_mul,
      ite_apply, Pi.zero_apply, mulVec, dotProduct, Fin.sum_univ_three, transpose_apply] <;>
    simp only [qmat, Fin.zero_eta, Fin.mk_one, Fin.reduceFinMk, Fin.isValue, cons_val, of_apply] <;>
    simp only [cas_defs, cas_real] <;>
    by_cases hground : x 2 < 0 <;>
    by_cases hdrag : 5902958103587057 * (2:ℝ) ^ (-69:ℤ) < √(x 3 * x 3 + x 4 * x 4 + x 5 * x 5) <;>
    simp only [hground, hdrag, ↓reduceIte] <;> ring

/-- Newton's equation in the body frame: m (v' + ω × v) = R(q)ᵀ F_ground − drag + Σ thrust ẑ + R(q)ᵀ (−m g ẑ) -/
theorem newton_equation (x : Fin 17 → ℝ) (u : Fin 4 → ℝ) (p : Fin 39 → ℝ) (hm : p 23 ≠ 0) :
    let R := qmat ![x 6, x 7, x 8, x 9]
    let vw := R.mulVec ![x 3, x 4, x 5]
    let Fg : Fin 3 → ℝ := if x 2 < 0 then ![-1000 * vw 0, -1000 * vw 1, -1000 * x 2 - 1000 * vw 2] else 0
    let V := Real.sqrt (x 3 * x 3 + x 4 * x 4 + x 5 * x 5)
    let wX : Fin 3 → ℝ := if 5902958103587057 * (2:ℝ) ^ (-69:ℤ) < V then ![x 3 / V, x 4 / V, x 5 / V] else ![1, 0, 0]
    let drag : Fin 3 → ℝ := fun k => p 19 * (1 / 2 * p 21 * (x 3 * x 3 + x 4 * x 4 + x 5 * x 5)) * p 20 * wX k
    let T := p 14 * (x 13 * x 13) + p 14 * (x 14 * x 14) + p 14 * (x 15 * x 15) + p 14 * (x 16 * x 16)
    p 23 * (quadrotor.f.x_dot_3 x u p + (x 11 * x 5 - x 12 * x 4))
        = (R.transpose.mulVec Fg) 0 - drag 0 + (R.transpose.mulVec ![0, 0, -(p 23 * p 22)]) 0
    ∧ p 23 * (quadrotor.f.x_dot_4 x u p + (x 12 * x 3 - x 10 * x 5))
        = (R.transpose.mulVec Fg) 1 - drag 1 + (R.transpose.mulVec ![0, 0, -(p 23 * p 22)]) 1
    ∧ p 23 * (quadrotor.f.x_dot_5 x u p + (x 10 * x 4 - x 11 * x 3))
        = (R.transpose.mulVec Fg) 2 - drag 2 + T + (R.transpose.mulVec ![0, 0, -(p 23 * p 22)]) 2 := by
  intro R vw Fg V wX drag T
  have key (k : Fin 3) :
      p 23 * (![quadrotor.f.x_dot_3 x u p, quadrotor.f.x_dot_4 x u p, quadrotor.f.x_dot_5 x u p] k
        + cross ![x 10, x 11, x 12] ![x 3, x 4, x 5] k) = bodyForce p R (x 2) ![x 3, x 4, x 5] T k := by
    rw [body_accel, Pi.sub_apply, sub_add_cancel, Pi.smul_apply, smul_eq_mul, mul_inv_cancel_left₀ hm]
  have k0 := key 0
  have k1 := key 1
  have k2 := key 2
  simp only [bodyForce, Pi.add_apply, Pi.sub_apply, Pi.smul_apply, smul_eq_mul, cons_val, add_zero] at k0 k1 k2
  exact ⟨k0, k1, k2⟩

/-! ## level hover with each rotor carrying a quarter of the weight is an equilibrium -/
theorem hover_equilibrium (x : Fin 17 → ℝ) (u : Fin 4 → ℝ) (p : Fin 39 → ℝ)
    (hm : p 23 ≠ 0) (hJx : p 24 ≠ 0) (hJy : p 25 ≠ 0) (hJz : p 26 ≠ 0)
    (habove : ¬ x 2 < 0)
    (hv : x 3 = 0 ∧ x 4 = 0 ∧ x 5 = 0)
    (hq : x 6 = 1 ∧ x 7 = 0 ∧ x 8 = 0 ∧ x 9 = 0)
    (hw : x 10 = 0 ∧ x 11 = 0 ∧ x 12 = 0)
    (heq : x 14 = x 13 ∧ x 15 = x 13 ∧ x 16 = x 13)
    (hquarter : p 14 * (x 13 * x 13) = p 23 * p 22 / 4)
    (hcmd : u 0 = x 13 ∧ u 1 = x 14 ∧ u 2 = x 15 ∧ u 3 = x 16)
    (hsin : p 6 * Real.sin (p 10) + p 7 * Real.sin (p 11) + p 8 * Real.sin (p 12) + p 9 * Real.sin (p 13) = 0)
    (hcos : p 6 * Real.cos (p 10) + p 7 * Real.cos (p 11) + p 8 * Real.cos (p 12) + p 9 * Real.cos (p 13) = 0)
    (hdir : p 2 + p 3 + p 4 + p 5 = 0) :
    ∀ i, xdot x u p i = 0 := by
  obtain ⟨m0, m1, m2⟩ := zero_moment_symmetric x u p hJx hJy hJz hw heq hsin hcos hdir
  obtain ⟨v0, v1, v2⟩ := hv
  obtain ⟨q0, q1, q2, q3⟩ := hq
  obtain ⟨w0, w1, w2⟩ := hw
  obtain ⟨e1, e2, e3⟩ := heq
  obtain ⟨c0, c1, c2, c3⟩ := hcmd
  have z3 : (![0, 0, 0] : Fin 3 → ℝ) = 0 := by simp only [cons_eq_zero_iff, zero_empty, and_self]
  have hpos := position_kinematics x u p
  rw [v0, v1, v2, z3, mulVec_zero] at hpos
  have hquat := quat_kinematics x u p
  rw [w0, w1, w2] at hquat
  simp only [qmul, cons_val, mul_zero, sub_self, add_zero, smul_cons, smul_eq_mul, smul_empty, vecCons_inj,
    and_true] at hquat
  -- at rest, level and above ground the net force is thrust + weight along z
  have hvel := body_accel x u p
  rw [v0, v1, v2, q0, q1, q2, q3, w0, w1, w2, e1, e2, e3, qmat_one, z3] at hvel
  have hT : p 14 * (x 13 * x 13) + p 14 * (x 13 * x 13) + p 14 * (x 13 * x 13) + p 14 * (x 13 * x 13)
      + -(p 23 * p 22) = 0 := by linarith
  simp only [bodyForce, transpose_one, groundForce, habove, ↓reduceIte, mulVec_zero, Pi.zero_apply, mul_zero,
    add_zero, zero_mul, zero_smul, sub_self, zero_add, one_mulVec, add_cons, head_cons, tail_cons, hT,
    empty_add_empty, smul_cons, smul_eq_mul, smul_empty, cross, cons_eq_zero_iff, zero_empty, and_true] at hvel
  have mot0 : quadrotor.f.x_dot_13 x u p = 0 := by rw [motor_0, c0, sub_self, mul_zero]
  have mot1 : quadrotor.f.x_dot_14 x u p = 0 := by rw [motor_1, c1, sub_self, mul_zero]
  have mot2 : quadrotor.f.x_dot_15 x u p = 0 := by rw [motor_2, c2, sub_self, mul_zero]
  have mot3 : quadrotor.f.x_dot_16 x u p = 0 := by rw [motor_3, c3, sub_self, mul_zero]
  intro i
  fin_cases i
  exacts [congrFun hpos 0, congrFun hpos 1, congrFun hpos 2, hvel.1, hvel.2.1, hvel.2.2,
    hquat.1, hquat.2.1, hquat.2.2.1, hquat.2.2.2, m0, m1, m2, mot0, mot1, mot2, mot3]

/-- the accelerometer reads zero in free fall (no thrust, above ground, no aerodynamic drag) -/
theorem accel_free_fall (x : Fin 17 → ℝ) (u : Fin 4 → ℝ) (p : Fin 39 → ℝ) (dt : ℝ)
    (habove : ¬ x 2 < 0) (hmot : x 13 = 0 ∧ x 14 = 0 ∧ x 15 = 0 ∧ x 16 = 0) (hdrag : p 19 = 0) :
    quadrotor.g_accel.y_0 x u p 0 dt = 0 ∧ quadrotor.g_accel.y_1 x u p 0 dt = 0
      ∧ quadrotor.g_accel.y_2 x u p 0 dt = 0 := by
  obtain ⟨a, b, c, d⟩ := hmot
  refine ⟨?_, ?_, ?_⟩ <;>
    simp only [cas_defs, cas_real, habove, a, b, c, d, hdrag, ↓reduceIte, ne_eq, not_true_eq_false, zero_mul,
      mul_zero, ite_self, add_zero, sub_self, zero_div, Pi.zero_apply]

/-- the noise-free gyro reads the body rate -/
theorem gyro_noise_free (x : Fin 17 → ℝ) (u : Fin 4 → ℝ) (p : Fin 39 → ℝ) (dt : ℝ) :
    quadrotor.g_gyro.y_0 x u p 0 dt = x 10 ∧ quadrotor.g_gyro.y_1 x u p 0 dt = x 11
      ∧ quadrotor.g_gyro.y_2 x u p 0 dt = x 12 := by
  refine ⟨?_, ?_, ?_⟩ <;> simp only [cas_defs, cas_real, Pi.zero_apply, zero_mul, add_zero]

end C16
