/-
  Props/C16E.lean — equivariance of the quadrotor model under horizontal translations and
  rotations of the world frame about the vertical.

  The world rotation by ψ is parametrised rationally by w = tan(ψ/4) ∈ ℝ (c = cos(ψ/2) =
  (1−w²)/(1+w²), s = sin(ψ/2) = 2w/(1+w²); every ψ ∈ (−π, π] is reached with |w| ≤ 1), so the
  statements need no trigonometric side relation.
-/
import Props.C16

open Gen Rot Matrix

namespace C16E

/-- the state seen from the rotated / translated world frame -/
noncomputable def moved (x : Fin 17 → ℝ) (a b w : ℝ) : Fin 17 → ℝ :=
  let c := (1 - w ^ 2) / (1 + w ^ 2)
  let s := 2 * w / (1 + w ^ 2)
  ![(c * c - s * s) * x 0 - 2 * c * s * x 1 + a, 2 * c * s * x 0 + (c * c - s * s) * x 1 + b, x 2,
    x 3, x 4, x 5,
    c * x 6 - s * x 9, c * x 7 - s * x 8, c * x 8 + s * x 7, c * x 9 + s * x 6,
    x 10, x 11, x 12, x 13, x 14, x 15, x 16]

/-- the yaw quaternion (cos ψ/2, 0, 0, sin ψ/2) -/
noncomputable def yawQ (w : ℝ) : Fin 4 → ℝ := ![(1 - w ^ 2) / (1 + w ^ 2), 0, 0, 2 * w / (1 + w ^ 2)]

theorem qnormSq_yawQ (w : ℝ) : qnormSq (yawQ w) = 1 := by
  have hw : 1 + w ^ 2 ≠ 0 := by positivity
  simp only [qnormSq, yawQ, cons_val]
  field_simp
  ring

theorem yawQ_qmul (w : ℝ) (q : Fin 4 → ℝ) :
    qmul (yawQ w) q = ![yawQ w 0 * q 0 - yawQ w 3 * q 3, yawQ w 0 * q 1 - yawQ w 3 * q 2,
      yawQ w 0 * q 2 + yawQ w 3 * q 1, yawQ w 0 * q 3 + yawQ w 3 * q 0] := by
  have h1 : yawQ w 1 = 0 := rfl
  have h2 : yawQ w 2 = 0 := rfl
  simp only [qmul, h1, h2]
  lit_entries <;> ring

theorem qmat_yawQ_mulVec (w : ℝ) (y : Fin 3 → ℝ) :
    qmat (yawQ w) *ᵥ y = ![(yawQ w 0 * yawQ w 0 - yawQ w 3 * yawQ w 3) * y 0 - 2 * yawQ w 0 * yawQ w 3 * y 1,
      2 * yawQ w 0 * yawQ w 3 * y 0 + (yawQ w 0 * yawQ w 0 - yawQ w 3 * yawQ w 3) * y 1, y 2] := by
  have h := qnormSq_yawQ w
  have h1 : yawQ w 1 = 0 := rfl
  have h2 : yawQ w 2 = 0 := rfl
  simp only [qnormSq, h1, h2] at h
  funext k
  fin_cases k <;>
    simp only [Fin.zero_eta, Fin.mk_one, Fin.reduceFinMk, mulVec, dotProduct, Fin.sum_univ_three, qmat, of_apply,
      cons_val, h1, h2]
  · ring
  · ring
  · linear_combination y 2 * h

theorem qmat_yawQ_vertical (w : ℝ) : qmat (yawQ w) *ᵥ ![0, 0, 1] = ![0, 0, 1] := by
  simp only [qmat_yawQ_mulVec, cons_val, mul_zero, sub_zero, add_zero]

theorem moved_quat (x : Fin 17 → ℝ) (a b w : ℝ) :
    ![moved x a b w 6, moved x a b w 7, moved x a b w 8, moved x a b w 9] = qmul (yawQ w) ![x 6, x 7, x 8, x 9] := by
  rw [yawQ_qmul]
  simp only [moved, yawQ, cons_val]

/-! The right-hand side sees the state through p' = R v, v' = F(R, h, v, T)/m − ω × v, q' = ½ q ⊗ (0, ω), and through
    ω and the rotor speeds alone in ω' and the rotor dynamics; `moved` changes R into R_z R and q into q_z ⊗ q and leaves
    h, v, ω and the rotor speeds alone.  One lemma per group of components; none needs a hypothesis on m or J (the
    component statements `equivariant_k` below carry `hm hJx hJy hJz` and use none of them). -/

theorem position_equivariant (x : Fin 17 → ℝ) (u : Fin 4 → ℝ) (p : Fin 39 → ℝ) (a b w : ℝ) :
    ![quadrotor.f.x_dot_0 (moved x a b w) u p, quadrotor.f.x_dot_1 (moved x a b w) u p,
        quadrotor.f.x_dot_2 (moved x a b w) u p]
      = qmat (yawQ w) *ᵥ ![quadrotor.f.x_dot_0 x u p, quadrotor.f.x_dot_1 x u p, quadrotor.f.x_dot_2 x u p] := by
  rw [C16.position_kinematics, C16.position_kinematics, moved_quat, qmat_mul, mulVec_mulVec]
  simp only [moved, cons_val]

/-- the force depends on the attitude through `bodyForce` only, which is invariant -/
theorem velocity_equivariant (x : Fin 17 → ℝ) (u : Fin 4 → ℝ) (p : Fin 39 → ℝ) (a b w : ℝ) :
    ![quadrotor.f.x_dot_3 (moved x a b w) u p, quadrotor.f.x_dot_4 (moved x a b w) u p,
        quadrotor.f.x_dot_5 (moved x a b w) u p]
      = ![quadrotor.f.x_dot_3 x u p, quadrotor.f.x_dot_4 x u p, quadrotor.f.x_dot_5 x u p] := by
  rw [C16.body_accel, C16.body_accel, moved_quat, qmat_mul,
    C16.bodyForce_mul_left p _ _ (qmat_orthogonal _ (qnormSq_yawQ w)).1 (qmat_yawQ_vertical w)]
  simp only [moved, cons_val]

theorem quat_equivariant (x : Fin 17 → ℝ) (u : Fin 4 → ℝ) (p : Fin 39 → ℝ) (a b w : ℝ) :
    ![quadrotor.f.x_dot_6 (moved x a b w) u p, quadrotor.f.x_dot_7 (moved x a b w) u p,
        quadrotor.f.x_dot_8 (moved x a b w) u p, quadrotor.f.x_dot_9 (moved x a b w) u p]
      = qmul (yawQ w) ![quadrotor.f.x_dot_6 x u p, quadrotor.f.x_dot_7 x u p, quadrotor.f.x_dot_8 x u p,
          quadrotor.f.x_dot_9 x u p] := by
  rw [C16.quat_kinematics, C16.quat_kinematics, moved_quat, qmul_assoc, qmul_smul]
  simp only [moved, cons_val]

theorem equivariant_0 (x : Fin 17 → ℝ) (u : Fin 4 → ℝ) (p : Fin 39 → ℝ) (a b w : ℝ)
    (hm : p 23 ≠ 0) (hJx : p 24 ≠ 0) (hJy : p 25 ≠ 0) (hJz : p 26 ≠ 0) :
    quadrotor.f.x_dot_0 (moved x a b w) u p = (((1 - w ^ 2) / (1 + w ^ 2)) * ((1 - w ^ 2) / (1 + w ^ 2)) - (2 * w / (1 + w ^ 2)) * (2 * w / (1 + w ^ 2))) * quadrotor.f.x_dot_0 x u p - 2 * ((1 - w ^ 2) / (1 + w ^ 2)) * (2 * w / (1 + w ^ 2)) * quadrotor.f.x_dot_1 x u p := by
  exact (congrFun (position_equivariant x u p a b w) 0).trans (congrFun (qmat_yawQ_mulVec w _) 0)

theorem equivariant_1 (x : Fin 17 → ℝ) (u : Fin 4 → ℝ) (p : Fin 39 → ℝ) (a b w : ℝ)
    (hm : p 23 ≠ 0) (hJx : p 24 ≠ 0) (hJy : p 25 ≠ 0) (hJz : p 26 ≠ 0) :
    quadrotor.f.x_dot_1 (moved x a b w) u p = 2 * ((1 - w ^ 2) / (1 + w ^ 2)) * (2 * w / (1 + w ^ 2)) * quadrotor.f.x_dot_0 x u p + (((1 - w ^ 2) / (1 + w ^ 2)) * ((1 - w ^ 2) / (1 + w ^ 2)) - (2 * w / (1 + w ^ 2)) * (2 * w / (1 + w ^ 2))) * quadrotor.f.x_dot_1 x u p := by
  exact (congrFun (position_equivariant x u p a b w) 1).trans (congrFun (qmat_yawQ_mulVec w _) 1)

theorem equivariant_2 (x : Fin 17 → ℝ) (u : Fin 4 → ℝ) (p : Fin 39 → ℝ) (a b w : ℝ)
    (hm : p 23 ≠ 0) (hJx : p 24 ≠ 0) (hJy : p 25 ≠ 0) (hJz : p 26 ≠ 0) :
    quadrotor.f.x_dot_2 (moved x a b w) u p = quadrotor.f.x_dot_2 x u p := by
  exact (congrFun (position_equivariant x u p a b w) 2).trans (congrFun (qmat_yawQ_mulVec w _) 2)

theorem equivariant_3 (x : Fin 17 → ℝ) (u : Fin 4 → ℝ) (p : Fin 39 → ℝ) (a b w : ℝ)
    (hm : p 23 ≠ 0) (hJx : p 24 ≠ 0) (hJy : p 25 ≠ 0) (hJz : p 26 ≠ 0) :
    quadrotor.f.x_dot_3 (moved x a b w) u p = quadrotor.f.x_dot_3 x u p := by
  exact congrFun (velocity_equivariant x u p a b w) 0

theorem equivariant_4 (x : Fin 17 → ℝ) (u : Fin 4 → ℝ) (p : Fin 39 → ℝ) (a b w : ℝ)
    (hm : p 23 ≠ 0) (hJx : p 24 ≠ 0) (hJy : p 25 ≠ 0) (hJz : p 26 ≠ 0) :
    quadrotor.f.x_dot_4 (moved x a b w) u p = quadrotor.f.x_dot_4 x u p := by
  exact congrFun (velocity_equivariant x u p a b w) 1

theorem equivariant_5 (x : Fin 17 → ℝ) (u : Fin 4 → ℝ) (p : Fin 39 → ℝ) (a b w : ℝ)
    (hm : p 23 ≠ 0) (hJx : p 24 ≠ 0) (hJy : p 25 ≠ 0) (hJz : p 26 ≠ 0) :
    quadrotor.f.x_dot_5 (moved x a b w) u p = quadrotor.f.x_dot_5 x u p := by
  exact congrFun (velocity_equivariant x u p a b w) 2

theorem equivariant_6 (x : Fin 17 → ℝ) (u : Fin 4 → ℝ) (p : Fin 39 → ℝ) (a b w : ℝ)
    (hm : p 23 ≠ 0) (hJx : p 24 ≠ 0) (hJy : p 25 ≠ 0) (hJz : p 26 ≠ 0) :
    quadrotor.f.x_dot_6 (moved x a b w) u p = ((1 - w ^ 2) / (1 + w ^ 2)) * quadrotor.f.x_dot_6 x u p - (2 * w / (1 + w ^ 2)) * quadrotor.f.x_dot_9 x u p := by
  exact (congrFun (quat_equivariant x u p a b w) 0).trans (congrFun (yawQ_qmul w _) 0)

theorem equivariant_7 (x : Fin 17 → ℝ) (u : Fin 4 → ℝ) (p : Fin 39 → ℝ) (a b w : ℝ)
    (hm : p 23 ≠ 0) (hJx : p 24 ≠ 0) (hJy : p 25 ≠ 0) (hJz : p 26 ≠ 0) :
    quadrotor.f.x_dot_7 (moved x a b w) u p = ((1 - w ^ 2) / (1 + w ^ 2)) * quadrotor.f.x_dot_7 x u p - (2 * w / (1 + w ^ 2)) * quadrotor.f.x_dot_8 x u p := by
  exact (congrFun (quat_equivariant x u p a b w) 1).trans (congrFun (yawQ_qmul w _) 1)

theorem equivariant_8 (x : Fin 17 → ℝ) (u : Fin 4 → ℝ) (p : Fin 39 → ℝ) (a b w : ℝ)
    (hm : p 23 ≠ 0) (hJx : p 24 ≠ 0) (hJy : p 25 ≠ 0) (hJz : p 26 ≠ 0) :
    quadrotor.f.x_dot_8 (moved x a b w) u p = ((1 - w ^ 2) / (1 + w ^ 2)) * quadrotor.f.x_dot_8 x u p + (2 * w / (1 + w ^ 2)) * quadrotor.f.x_dot_7 x u p := by
  exact (congrFun (quat_equivariant x u p a b w) 2).trans (congrFun (yawQ_qmul w _) 2)

theorem equivariant_9 (x : Fin 17 → ℝ) (u : Fin 4 → ℝ) (p : Fin 39 → ℝ) (a b w : ℝ)
    (hm : p 23 ≠ 0) (hJx : p 24 ≠ 0) (hJy : p 25 ≠ 0) (hJz : p 26 ≠ 0) :
    quadrotor.f.x_dot_9 (moved x a b w) u p = ((1 - w ^ 2) / (1 + w ^ 2)) * quadrotor.f.x_dot_9 x u p + (2 * w / (1 + w ^ 2)) * quadrotor.f.x_dot_6 x u p := by
  exact (congrFun (quat_equivariant x u p a b w) 3).trans (congrFun (yawQ_qmul w _) 3)

/-! ω' and the rotor dynamics read x 10 … x 16 only, which `moved` leaves alone: both sides unfold to the same term. -/

theorem equivariant_10 (x : Fin 17 → ℝ) (u : Fin 4 → ℝ) (p : Fin 39 → ℝ) (a b w : ℝ)
    (hm : p 23 ≠ 0) (hJx : p 24 ≠ 0) (hJy : p 25 ≠ 0) (hJz : p 26 ≠ 0) :
    quadrotor.f.x_dot_10 (moved x a b w) u p = quadrotor.f.x_dot_10 x u p := by
  simp only [cas_defs, moved, cons_val]

theorem equivariant_11 (x : Fin 17 → ℝ) (u : Fin 4 → ℝ) (p : Fin 39 → ℝ) (a b w : ℝ)
    (hm : p 23 ≠ 0) (hJx : p 24 ≠ 0) (hJy : p 25 ≠ 0) (hJz : p 26 ≠ 0) :
    quadrotor.f.x_dot_11 (moved x a b w) u p = quadrotor.f.x_dot_11 x u p := by
  simp only [cas_defs, moved, cons_val]

theorem equivariant_12 (x : Fin 17 → ℝ) (u : Fin 4 → ℝ) (p : Fin 39 → ℝ) (a b w : ℝ)
    (hm : p 23 ≠ 0) (hJx : p 24 ≠ 0) (hJy : p 25 ≠ 0) (hJz : p 26 ≠ 0) :
    quadrotor.f.x_dot_12 (moved x a b w) u p = quadrotor.f.x_dot_12 x u p := by
  simp only [cas_defs, moved, cons_val]

theorem equivariant_13 (x : Fin 17 → ℝ) (u : Fin 4 → ℝ) (p : Fin 39 → ℝ) (a b w : ℝ)
    (hm : p 23 ≠ 0) (hJx : p 24 ≠ 0) (hJy : p 25 ≠ 0) (hJz : p 26 ≠ 0) :
    quadrotor.f.x_dot_13 (moved x a b w) u p = quadrotor.f.x_dot_13 x u p := by
  simp only [cas_defs, moved, cons_val]

theorem equivariant_14 (x : Fin 17 → ℝ) (u : Fin 4 → ℝ) (p : Fin 39 → ℝ) (a b w : ℝ)
    (hm : p 23 ≠ 0) (hJx : p 24 ≠ 0) (hJy : p 25 ≠ 0) (hJz : p 26 ≠ 0) :
    quadrotor.f.x_dot_14 (moved x a b w) u p = quadrotor.f.x_dot_14 x u p := by
  simp only [cas_defs, moved, cons_val]

theorem equivariant_15 (x : Fin 17 → ℝ) (u : Fin 4 → ℝ) (p : Fin 39 → ℝ) (a b w : ℝ)
    (hm : p 23 ≠ 0) (hJx : p 24 ≠ 0) (hJy : p 25 ≠ 0) (hJz : p 26 ≠ 0) :
    quadrotor.f.x_dot_15 (moved x a b w) u p = quadrotor.f.x_dot_15 x u p := by
  simp only [cas_defs, moved, cons_val]

theorem equivariant_16 (x : Fin 17 → ℝ) (u : Fin 4 → ℝ) (p : Fin 39 → ℝ) (a b w : ℝ)
    (hm : p 23 ≠ 0) (hJx : p 24 ≠ 0) (hJy : p 25 ≠ 0) (hJz : p 26 ≠ 0) :
    quadrotor.f.x_dot_16 (moved x a b w) u p = quadrotor.f.x_dot_16 x u p := by
  simp only [cas_defs, moved, cons_val]

end C16E
