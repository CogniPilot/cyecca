/-
  Props/C17.lean — interface theorems of the control cascade (PARTIAL: closed-loop convergence is not a theorem,
  see DESIGN.md §2 C17): the plant's rotor geometry (cyecca/models/quadrotor.py) realises the moment the allocator
  (cyecca/models/rdd2.py) asks for, axis by axis, with POSITIVE gains — no sign or axis mismatch between the two
  independently written modules; and the commanded hover is a fixed point of every stage of the cascade
  (`hover_*`, composed in `hover_cascade_equilibrium`).
-/
import Props.C13
import Props.C14
import Props.C15
import Props.C16

open Gen Rot Triad

namespace C17

/-- body moment produced by the plant (whatever the motor COMMAND u: only the actual rotor speeds count) for motor forces Fᵢ = CT·ωᵢ², with the shipped rotor geometry
    (arm angles −π/4, 3π/4, π/4, −3π/4, spin directions +,+,−,−, equal arms l) and no aerodynamic moment
    coefficients: the rows of the allocator's geometry map, scaled by (√2/2)·l, (√2/2)·l and CM.
    Indices: p 2..5 spin directions, p 6..9 arms, p 10..13 arm angles, p 14 CT, p 15 CM, p 16..18 aerodynamic moment
    coefficients; x 13..16 motor speeds (checked against model["p_index"], model["x_index"] by the harness). -/
theorem plant_moment (x : Fin 17 → ℝ) (u : Fin 4 → ℝ) (p : Fin 39 → ℝ) (r l : ℝ)
    (hc0 : Real.cos (p 10) = r) (hs0 : Real.sin (p 10) = -r) (hc1 : Real.cos (p 11) = -r) (hs1 : Real.sin (p 11) = r)
    (hc2 : Real.cos (p 12) = r) (hs2 : Real.sin (p 12) = r) (hc3 : Real.cos (p 13) = -r) (hs3 : Real.sin (p 13) = -r)
    (hd : p 2 = 1 ∧ p 3 = 1 ∧ p 4 = -1 ∧ p 5 = -1) (hl : p 6 = l ∧ p 7 = l ∧ p 8 = l ∧ p 9 = l)
    (ha : p 16 = 0 ∧ p 17 = 0 ∧ p 18 = 0) :
    quadrotor.M_b.M_b_0 x u p = r * l * (-(p 14 * x 13 ^ 2) + p 14 * x 14 ^ 2 + p 14 * x 15 ^ 2 - p 14 * x 16 ^ 2)
    ∧ quadrotor.M_b.M_b_1 x u p = r * l * (-(p 14 * x 13 ^ 2) + p 14 * x 14 ^ 2 - p 14 * x 15 ^ 2 + p 14 * x 16 ^ 2)
    ∧ quadrotor.M_b.M_b_2 x u p = p 15 * (-(p 14 * x 13 ^ 2) - p 14 * x 14 ^ 2 + p 14 * x 15 ^ 2 + p 14 * x 16 ^ 2) := by
  obtain ⟨d0, d1, d2, d3⟩ := hd
  obtain ⟨l0, l1, l2, l3⟩ := hl
  obtain ⟨a0, a1, a2⟩ := ha
  refine ⟨?_, ?_, ?_⟩ <;>
    simp only [cas_defs, cas_real, hc0, hs0, hc1, hs1, hc2, hs2, hc3, hs3, d0, d1, d2, d3, l0, l1, l2, l3, a0, a1, a2] <;>
    ring

open Gen.rdd2.control_allocation in
/-- allocator → plant: if the motors run at the speeds the allocator commands (the fixed point of the first-order
    motor model) and the demanded moment is achievable together with some thrust, the plant's body moment is the
    range-limited demanded moment scaled by (√2/2, √2/2, 1): same axes, same signs, positive gains -/
theorem cascade_moment (x : Fin 17 → ℝ) (u : Fin 4 → ℝ) (p : Fin 39 → ℝ) (r l Fmax T : ℝ) (M : Fin 3 → ℝ)
    (hc0 : Real.cos (p 10) = r) (hs0 : Real.sin (p 10) = -r) (hc1 : Real.cos (p 11) = -r) (hs1 : Real.sin (p 11) = r)
    (hc2 : Real.cos (p 12) = r) (hs2 : Real.sin (p 12) = r) (hc3 : Real.cos (p 13) = -r) (hs3 : Real.sin (p 13) = -r)
    (hd : p 2 = 1 ∧ p 3 = 1 ∧ p 4 = -1 ∧ p 5 = -1) (hl : p 6 = l ∧ p 7 = l ∧ p 8 = l ∧ p 9 = l)
    (ha : p 16 = 0 ∧ p 17 = 0 ∧ p 18 = 0)
    (hF : 0 ≤ Fmax) (hCt : 0 < p 14) (hl0 : l ≠ 0) (hCm : p 15 ≠ 0)
    (hw0 : x 13 = omega_0 Fmax l (p 15) (p 14) T M) (hw1 : x 14 = omega_1 Fmax l (p 15) (p 14) T M)
    (hw2 : x 15 = omega_2 Fmax l (p 15) (p 14) T M) (hw3 : x 16 = omega_3 Fmax l (p 15) (p 14) T M)
    (hsp : C13.mx (F_moment_0 Fmax l (p 15) (p 14) T M + F_thrust_0 Fmax l (p 15) (p 14) T M) (F_moment_1 Fmax l (p 15) (p 14) T M + F_thrust_0 Fmax l (p 15) (p 14) T M)
              (F_moment_2 Fmax l (p 15) (p 14) T M + F_thrust_0 Fmax l (p 15) (p 14) T M) (F_moment_3 Fmax l (p 15) (p 14) T M + F_thrust_0 Fmax l (p 15) (p 14) T M)
          - C13.mn (F_moment_0 Fmax l (p 15) (p 14) T M + F_thrust_0 Fmax l (p 15) (p 14) T M) (F_moment_1 Fmax l (p 15) (p 14) T M + F_thrust_0 Fmax l (p 15) (p 14) T M)
              (F_moment_2 Fmax l (p 15) (p 14) T M + F_thrust_0 Fmax l (p 15) (p 14) T M) (F_moment_3 Fmax l (p 15) (p 14) T M + F_thrust_0 Fmax l (p 15) (p 14) T M) ≤ Fmax) :
    quadrotor.M_b.M_b_0 x u p = r * M_sat_0 Fmax l (p 15) (p 14) T M
    ∧ quadrotor.M_b.M_b_1 x u p = r * M_sat_1 Fmax l (p 15) (p 14) T M
    ∧ quadrotor.M_b.M_b_2 x u p = M_sat_2 Fmax l (p 15) (p 14) T M := by
  obtain ⟨m0, m1, m2⟩ := plant_moment x u p r l hc0 hs0 hc1 hs1 hc2 hs2 hc3 hs3 hd hl ha
  obtain ⟨g0, g1, g2⟩ := C13.realised_moment Fmax l (p 15) (p 14) T M hl0 hCm hsp
  have sq : ∀ (w Fp : ℝ), w = Real.sqrt (Fp / p 14) → 0 ≤ Fp / p 14 → p 14 * w ^ 2 = Fp := by
    intro w Fp hw hnn
    rw [hw, Real.sq_sqrt hnn]; field_simp
  obtain ⟨⟨a0, b0, _⟩, ⟨a1, b1, _⟩, ⟨a2, b2, _⟩, ⟨a3, b3, _⟩⟩ := C13.omega_spec Fmax l (p 15) (p 14) T M hF hCt
  have f0 := sq _ _ (hw0.trans a0) b0
  have f1 := sq _ _ (hw1.trans a1) b1
  have f2 := sq _ _ (hw2.trans a2) b2
  have f3 := sq _ _ (hw3.trans a3) b3
  rw [f0, f1, f2, f3] at m0 m1 m2
  refine ⟨?_, ?_, ?_⟩
  · rw [m0, ← g0]; ring
  · rw [m1, ← g1]; ring
  · rw [m2, ← g2]

/-- non-vacuity: the shipped arm angles (−π/4, 3π/4, π/4, −3π/4) satisfy the geometric hypotheses with r = √2/2 -/
theorem geometry_hypotheses_satisfiable :
    let r := Real.sqrt 2 / 2
    Real.cos (-(Real.pi / 4)) = r ∧ Real.sin (-(Real.pi / 4)) = -r
    ∧ Real.cos (3 * Real.pi / 4) = -r ∧ Real.sin (3 * Real.pi / 4) = r
    ∧ Real.cos (Real.pi / 4) = r ∧ Real.sin (Real.pi / 4) = r
    ∧ Real.cos (-(3 * Real.pi / 4)) = -r ∧ Real.sin (-(3 * Real.pi / 4)) = -r := by
  intro r
  have e : 3 * Real.pi / 4 = Real.pi - Real.pi / 4 := by ring
  refine ⟨?_, ?_, ?_, ?_, ?_, ?_, ?_, ?_⟩
  · rw [Real.cos_neg, Real.cos_pi_div_four]
  · rw [Real.sin_neg, Real.sin_pi_div_four]
  · rw [e, Real.cos_pi_sub, Real.cos_pi_div_four]
  · rw [e, Real.sin_pi_sub, Real.sin_pi_div_four]
  · rw [Real.cos_pi_div_four]
  · rw [Real.sin_pi_div_four]
  · rw [Real.cos_neg, e, Real.cos_pi_sub, Real.cos_pi_div_four]
  · rw [Real.sin_neg, e, Real.sin_pi_sub, Real.sin_pi_div_four]

/-! ## the commanded hover is a fixed point of every stage of the cascade -/

/-- the step the two outer loops share: no feedback force (P = 0) and an empty height integrator leave, past the saturation
    (transparent within its limit `L`, C15) and the triad construction (C14), the force `trim` straight up, the thrust command
    `trim` and the pure yaw rotation by the heading ψ -/
theorem hover_of_zero_feedback {P T yB : Fin 3 → ℝ} {Rd : Matrix (Fin 3) (Fin 3) ℝ} {nT ψ trim L k : ℝ}
    (htrim : (1152921504606847:ℝ) * 2 ^ (-60:ℤ) < trim) (hL : 0 ≤ L) (hP : P = ![0, 0, 0])
    (hid : Real.sqrt (P 0 * P 0 + P 1 * P 1 + P 2 * P 2) ≤ L → T 0 = P 0 ∧ T 1 = P 1 ∧ T 2 = P 2 + trim + k * 0)
    (hn : nT = Real.sqrt (T 0 * T 0 + T 1 * T 1 + T 2 * T 2))
    (hRd : Rd = frame yB (zAxis (T 0) (T 1) (T 2)))
    (hyB : yB = yAxis (zAxis (T 0) (T 1) (T 2) 0) (zAxis (T 0) (T 1) (T 2) 1) (zAxis (T 0) (T 1) (T 2) 2)
      (Real.cos ψ) (Real.sin ψ)) :
    T = ![0, 0, trim] ∧ nT = trim
      ∧ Rd = !![Real.cos ψ, -Real.sin ψ, 0; Real.sin ψ, Real.cos ψ, 0; 0, 0, 1] := by
  have hpos : (0:ℝ) < trim := lt_trans (by norm_num) htrim
  have hT : T = ![0, 0, trim] := by
    obtain ⟨h0, h1, h2⟩ := hid (by rw [hP]; simpa using hL)
    rw [hP] at h0 h1 h2
    funext i; fin_cases i
    · simpa using h0
    · simpa using h1
    · simpa using h2
  have hs : Real.sqrt (0 * 0 + 0 * 0 + trim * trim) = trim := by
    rw [zero_mul, zero_add, zero_add]; exact Real.sqrt_mul_self hpos.le
  have hz : zAxis 0 0 trim = ![0, 0, 1] := by
    unfold zAxis; rw [hs, if_pos htrim]; simp [div_self (ne_of_gt hpos)]
  subst hT
  simp only [Matrix.cons_val] at hn hRd hyB
  refine ⟨rfl, hn.trans hs, ?_⟩
  rw [hz] at hRd hyB
  simp only [Matrix.cons_val] at hyB
  rw [hRd, hyB, yAxis_up _ _ (by rw [add_comm]; exact Real.sin_sq_add_cos_sq _)]
  ext i j; fin_cases i <;> fin_cases j <;> simp [frame]

/-- stage 1 (position controller): at zero position / velocity error, zero feed-forward acceleration and an empty height
    integrator the demanded force is `trim` straight up; the thrust command is `trim` and the set-point rotation is the pure
    yaw rotation by the commanded heading -/
theorem hover_position_control (trim : ℝ) (pt vt : Fin 3 → ℝ) (qc : Fin 4 → ℝ) (dt : ℝ)
    (htrim : (1152921504606847:ℝ) * 2 ^ (-60:ℤ) < trim) :
    rdd2.position_control_p.T_vec trim pt vt ![0, 0, 0] qc pt vt 0 dt = ![0, 0, trim]
    ∧ rdd2.position_control_p.nT trim pt vt ![0, 0, 0] qc pt vt 0 dt = trim
    ∧ rdd2.position_control_p.Rd_mat trim pt vt ![0, 0, 0] qc pt vt 0 dt
        = !![Real.cos (rdd2.position_control_p.yt trim pt vt ![0, 0, 0] qc pt vt 0 dt), -Real.sin (rdd2.position_control_p.yt trim pt vt ![0, 0, 0] qc pt vt 0 dt), 0;
             Real.sin (rdd2.position_control_p.yt trim pt vt ![0, 0, 0] qc pt vt 0 dt), Real.cos (rdd2.position_control_p.yt trim pt vt ![0, 0, 0] qc pt vt 0 dt), 0;
             0, 0, 1] := by
  have hP : rdd2.position_control_p.P_vec trim pt vt ![0, 0, 0] qc pt vt 0 dt = ![0, 0, 0] := by
    rw [rdd2.position_control_p.P_vec]; lit_entries <;> simp [cas_defs, cas_real]
  exact hover_of_zero_feedback htrim (by positivity) hP (C15.position_feedback_id trim pt vt ![0, 0, 0] qc pt vt 0 dt)
    (C14.position_control_setpoint trim pt vt ![0, 0, 0] qc pt vt 0 dt).2.2.2.2
    (C14.position_control_frame trim pt vt ![0, 0, 0] qc pt vt 0 dt) (C14.position_control_yB trim pt vt ![0, 0, 0] qc pt vt 0 dt)

/-- stage 1, log-linear cascade (SE₂(3) outer loop): at zero group error ζ = 0, zero feed-forward acceleration and an empty height
    integrator the demanded force is `trim` straight up; the thrust command is `trim` and the set-point rotation is the pure
    yaw rotation by the commanded heading -/
theorem hover_se23_position_control (trim : ℝ) (kp : Fin 3 → ℝ) (qc : Fin 4 → ℝ) (dt : ℝ)
    (htrim : (1152921504606847:ℝ) * 2 ^ (-60:ℤ) < trim) :
    loglinear.se23_position_control_p.T_vec trim kp ![0, 0, 0, 0, 0, 0, 0, 0, 0] ![0, 0, 0] qc 0 dt = ![0, 0, trim]
    ∧ loglinear.se23_position_control_p.nT trim kp ![0, 0, 0, 0, 0, 0, 0, 0, 0] ![0, 0, 0] qc 0 dt = trim
    ∧ loglinear.se23_position_control_p.Rd_mat trim kp ![0, 0, 0, 0, 0, 0, 0, 0, 0] ![0, 0, 0] qc 0 dt
        = !![Real.cos (loglinear.se23_position_control_p.yt trim kp ![0, 0, 0, 0, 0, 0, 0, 0, 0] ![0, 0, 0] qc 0 dt), -Real.sin (loglinear.se23_position_control_p.yt trim kp ![0, 0, 0, 0, 0, 0, 0, 0, 0] ![0, 0, 0] qc 0 dt), 0;
             Real.sin (loglinear.se23_position_control_p.yt trim kp ![0, 0, 0, 0, 0, 0, 0, 0, 0] ![0, 0, 0] qc 0 dt), Real.cos (loglinear.se23_position_control_p.yt trim kp ![0, 0, 0, 0, 0, 0, 0, 0, 0] ![0, 0, 0] qc 0 dt), 0;
             0, 0, 1] := by
  have hP : loglinear.se23_position_control_p.P_vec trim kp ![0, 0, 0, 0, 0, 0, 0, 0, 0] ![0, 0, 0] qc 0 dt = ![0, 0, 0] := by
    rw [loglinear.se23_position_control_p.P_vec]; lit_entries <;> simp [cas_defs, cas_real]
  exact hover_of_zero_feedback htrim (by positivity) hP
    (C15.se23_position_feedback_id trim kp ![0, 0, 0, 0, 0, 0, 0, 0, 0] ![0, 0, 0] qc 0 dt)
    (C14.se23_position_control_setpoint trim kp ![0, 0, 0, 0, 0, 0, 0, 0, 0] ![0, 0, 0] qc 0 dt).2.2.2.2
    (C14.se23_position_control_frame trim kp ![0, 0, 0, 0, 0, 0, 0, 0, 0] ![0, 0, 0] qc 0 dt)
    (C14.se23_position_control_yB trim kp ![0, 0, 0, 0, 0, 0, 0, 0, 0] ![0, 0, 0] qc 0 dt)

/-- stage 2, log-linear cascade: the SE₂(3) attitude law at zero group error and the so(3) log-linear law at q = q_r command
    zero rate (the position-controller cascade's stage 2 is `C15.attitude_zero_same`) -/
theorem hover_se23_attitude (kp : Fin 3 → ℝ) :
    loglinear.se23_attitude_control.omega_vec kp ![0, 0, 0, 0, 0, 0, 0, 0, 0] = ![0, 0, 0] := by
  rw [loglinear.se23_attitude_control.omega_vec]; lit_entries <;> simp [cas_defs, cas_real]
theorem hover_so3_attitude (kp : Fin 3 → ℝ) (q : Fin 4 → ℝ) :
    loglinear.so3_attitude_control.omega_0 kp q q = 0 ∧ loglinear.so3_attitude_control.omega_1 kp q q = 0
      ∧ loglinear.so3_attitude_control.omega_2 kp q q = 0 := by
  have h : ∀ i, loglinear.so3_attitude_control.omega_vec kp q q i = 0 := fun i => by
    have e := C15.log_err_smul q 1
    rw [one_smul] at e
    rw [C15A.so3_attitude_law, e]
    simp only [Pi.zero_apply, mul_zero]
    exact congrFun (Matrix.mulVec_zero _) i
  exact ⟨h 0, h 1, h 2⟩

/-- stage 3 (rate controller): zero rate error with empty integrator and derivative filter commands zero moment -/
theorem hover_rate_control (kp ki kd i_max om : Fin 3 → ℝ) (f dt : ℝ) (hi : ∀ i, 0 ≤ i_max i) :
    rdd2.attitude_rate_control.M_vec kp ki kd f i_max om om ![0, 0, 0] ![0, 0, 0] ![0, 0, 0] dt = ![0, 0, 0] := by
  have hn : ∀ i, ¬ i_max i < 0 := fun i => not_lt.mpr (hi i)
  rw [rdd2.attitude_rate_control.M_vec]; lit_entries <;> simp [cas_defs, cas_real, hn]

/-- stage 4 (control allocation): a pure thrust demand W within the collective range and zero moment is split equally:
    every motor force is W/4 and every motor speed is √(W/(4 Ct)) -/
theorem hover_allocation (F l Cm Ct W : ℝ) (hW0 : 0 ≤ W) (hW1 : W ≤ 4 * F) (hCt : 0 < Ct) (hl : 0 ≤ l) :
    rdd2.control_allocation.Fp_sum_0 F l Cm Ct W ![0, 0, 0] = W / 4 ∧ rdd2.control_allocation.Fp_sum_1 F l Cm Ct W ![0, 0, 0] = W / 4
    ∧ rdd2.control_allocation.Fp_sum_2 F l Cm Ct W ![0, 0, 0] = W / 4 ∧ rdd2.control_allocation.Fp_sum_3 F l Cm Ct W ![0, 0, 0] = W / 4
    ∧ rdd2.control_allocation.omega_0 F l Cm Ct W ![0, 0, 0] = Real.sqrt (W / 4 / Ct) ∧ rdd2.control_allocation.omega_1 F l Cm Ct W ![0, 0, 0] = Real.sqrt (W / 4 / Ct)
    ∧ rdd2.control_allocation.omega_2 F l Cm Ct W ![0, 0, 0] = Real.sqrt (W / 4 / Ct) ∧ rdd2.control_allocation.omega_3 F l Cm Ct W ![0, 0, 0] = Real.sqrt (W / 4 / Ct) := by
  have hF : 0 ≤ F := by linarith
  obtain ⟨t0, t1, t2, t3⟩ := C13.F_thrust_spec F l Cm Ct W ![0, 0, 0]
  have ht : rdd2.control_allocation.F_thrust_0 F l Cm Ct W ![0, 0, 0] = W / 4 := by
    rw [t0, if_neg (not_lt.mpr hW1), if_pos (not_lt.mpr hW0)]
  obtain ⟨m0, m1, m2, m3⟩ : rdd2.control_allocation.F_moment_0 F l Cm Ct W ![0, 0, 0] = 0 ∧ rdd2.control_allocation.F_moment_1 F l Cm Ct W ![0, 0, 0] = 0
      ∧ rdd2.control_allocation.F_moment_2 F l Cm Ct W ![0, 0, 0] = 0 ∧ rdd2.control_allocation.F_moment_3 F l Cm Ct W ![0, 0, 0] = 0 := by
    -- zero demanded moment: the clamp to ±l·(4F)/2 is taken at 0
    have hpos : ¬ l * (4 * F) / 2 < 0 := not_lt.mpr (by positivity)
    refine ⟨?_, ?_, ?_, ?_⟩ <;> simp [cas_defs, cas_real, hpos]
  -- every motor is asked for 0 + W/4, which is within [0, F]: the demand is jointly achievable
  have hq : 0 ≤ W / 4 ∧ W / 4 ≤ F := ⟨by positivity, by linarith⟩
  have f := C13.feasible F l Cm Ct W ![0, 0, 0]
  rw [m0, m1, m2, m3, t1, t2, t3, ht, zero_add] at f
  obtain ⟨g0, g1, g2, g3⟩ := f hq hq hq hq
  obtain ⟨⟨w0, -⟩, ⟨w1, -⟩, ⟨w2, -⟩, ⟨w3, -⟩⟩ := C13.omega_spec F l Cm Ct W ![0, 0, 0] hF hCt
  exact ⟨g0, g1, g2, g3, by rw [w0, g0], by rw [w1, g1], by rw [w2, g2], by rw [w3, g3]⟩

/-- stage 2 (attitude controller) is `C15.attitude_zero_same`: measured attitude = reference ⇒ zero rate command.

    **composition at hover**: with the weight W = m·g demanded (what stage 1 returns for trim = W) and zero moment (stages 2, 3),
    the allocator's motor speeds put the plant — level, at rest, above ground, rotors at those speeds and commanded to them —
    exactly in equilibrium: every component of the state derivative is 0.  (Symmetric frame hypotheses as in C16.) -/
theorem hover_cascade_equilibrium (x : Fin 17 → ℝ) (u : Fin 4 → ℝ) (p : Fin 39 → ℝ) (F l Cm : ℝ)
    (hm : p 23 ≠ 0) (hJx : p 24 ≠ 0) (hJy : p 25 ≠ 0) (hJz : p 26 ≠ 0) (hCt : 0 < p 14)
    (hW0 : 0 ≤ p 23 * p 22) (hW1 : p 23 * p 22 ≤ 4 * F) (hl : 0 ≤ l)
    (habove : ¬ x 2 < 0) (hv : x 3 = 0 ∧ x 4 = 0 ∧ x 5 = 0) (hq : x 6 = 1 ∧ x 7 = 0 ∧ x 8 = 0 ∧ x 9 = 0)
    (hw : x 10 = 0 ∧ x 11 = 0 ∧ x 12 = 0)
    (hx0 : x 13 = rdd2.control_allocation.omega_0 F l Cm (p 14) (p 23 * p 22) ![0, 0, 0])
    (hx1 : x 14 = rdd2.control_allocation.omega_1 F l Cm (p 14) (p 23 * p 22) ![0, 0, 0])
    (hx2 : x 15 = rdd2.control_allocation.omega_2 F l Cm (p 14) (p 23 * p 22) ![0, 0, 0])
    (hx3 : x 16 = rdd2.control_allocation.omega_3 F l Cm (p 14) (p 23 * p 22) ![0, 0, 0])
    (hcmd : u 0 = x 13 ∧ u 1 = x 14 ∧ u 2 = x 15 ∧ u 3 = x 16)
    (hsin : p 6 * Real.sin (p 10) + p 7 * Real.sin (p 11) + p 8 * Real.sin (p 12) + p 9 * Real.sin (p 13) = 0)
    (hcos : p 6 * Real.cos (p 10) + p 7 * Real.cos (p 11) + p 8 * Real.cos (p 12) + p 9 * Real.cos (p 13) = 0)
    (hdir : p 2 + p 3 + p 4 + p 5 = 0) :
    ∀ i, C16.xdot x u p i = 0 := by
  obtain ⟨_, _, _, _, w0, w1, w2, w3⟩ := hover_allocation F l Cm (p 14) (p 23 * p 22) hW0 hW1 hCt hl
  have e0 : x 13 = Real.sqrt (p 23 * p 22 / 4 / p 14) := hx0.trans w0
  refine C16.hover_equilibrium x u p hm hJx hJy hJz habove hv hq hw
    ⟨(hx1.trans w1).trans e0.symm, (hx2.trans w2).trans e0.symm, (hx3.trans w3).trans e0.symm⟩ ?_ hcmd hsin hcos hdir
  rw [e0, Real.mul_self_sqrt (by positivity)]
  field_simp

end C17
