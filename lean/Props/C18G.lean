/-
  Props/C18G.lean — Bezier curves of EVERY degree (hand model Model/Bezier.lean, tied to the real
  `cyecca.models.bezier.Bezier` class by the C18 correspondence run):
    * De Casteljau evaluation = Bernstein polynomial of the control points, for every n;
    * start / end points;
    * `deriv(m).eval` is the exact m-th time derivative of `eval`, for every n and every m ≤ n
      (HasDerivAt, and `iteratedDeriv`), for every t inside or outside [0, T];
    * the generic model at n = 1 … 7, m ≤ n IS the translated program (`Gen.bezier.evalN`): the `gen_evalN…`
      theorems.  Props/C18 reads every per-degree fact about `Gen.bezier.evalN` off the every-degree theorems here
      through them.
-/
import Model.Bezier
import GenM.Bezier
import Mathlib.Analysis.Calculus.Deriv.Mul
import Mathlib.Analysis.Calculus.Deriv.Add
import Mathlib.Analysis.Calculus.Deriv.Comp
import Mathlib.Analysis.Calculus.IteratedDeriv.Defs

open BezierModel Finset

namespace C18G

theorem dcStep_apply (β : ℝ) (A : ℕ → ℝ) (k : ℕ) :
    dcStep β A k = A k * (1 - β) + A (k + 1) * β := by
  simp [dcStep, cas_real]

theorem iter_eq {β : Type} (f : β → β) (n : ℕ) (a : β) : iter f n a = f^[n] a := by
  induction n generalizing a with
  | zero => rfl
  | succ n ih => rw [iter, ih]; rfl

/-- De Casteljau value after n sweeps, as a function of β -/
noncomputable def e (n : ℕ) (A : ℕ → ℝ) (β : ℝ) : ℝ := ((dcStep β)^[n] A) 0

theorem eval_eq_e (n : ℕ) (T : ℝ) (P : ℕ → ℝ) (t : ℝ) : eval n T P t = e n P (t / T) := by
  simp [eval, e, iter_eq, cas_real]

def shift (A : ℕ → ℝ) : ℕ → ℝ := fun k => A (k + 1)

theorem iter_shift (β : ℝ) (n : ℕ) (A : ℕ → ℝ) :
    (dcStep β)^[n] (shift A) = shift ((dcStep β)^[n] A) := by
  induction n generalizing A with
  | zero => rfl
  | succ n ih =>
    rw [Function.iterate_succ_apply, Function.iterate_succ_apply, ← ih]
    rfl

theorem e_zero (A : ℕ → ℝ) (β : ℝ) : e 0 A β = A 0 := rfl

/-- the recursion of De Casteljau's scheme -/
theorem e_succ (n : ℕ) (A : ℕ → ℝ) (β : ℝ) :
    e (n + 1) A β = e n A β * (1 - β) + e n (shift A) β * β := by
  unfold e
  rw [Function.iterate_succ_apply', dcStep_apply, iter_shift]
  rfl

theorem e_linear (n : ℕ) (c d : ℝ) (A B : ℕ → ℝ) (β : ℝ) :
    e n (fun k => c * A k + d * B k) β = c * e n A β + d * e n B β := by
  induction n generalizing A B with
  | zero => rfl
  | succ n ih =>
    rw [e_succ, e_succ, e_succ, ih]
    have : shift (fun k => c * A k + d * B k) = fun k => c * shift A k + d * shift B k := rfl
    rw [this, ih]; ring

theorem e_smul (n : ℕ) (c : ℝ) (A : ℕ → ℝ) (β : ℝ) : e n (fun k => c * A k) β = c * e n A β := by
  have := e_linear n c 0 A A β
  simpa using this

/-- Bernstein polynomial of degree n of the points A 0 … A n -/
noncomputable def bern (n : ℕ) (A : ℕ → ℝ) (β : ℝ) : ℝ :=
  ∑ k ∈ range (n + 1), (n.choose k : ℝ) * (1 - β) ^ (n - k) * β ^ k * A k

theorem bern_succ (n : ℕ) (A : ℕ → ℝ) (β : ℝ) :
    bern (n + 1) A β = bern n A β * (1 - β) + bern n (shift A) β * β := by
  unfold bern shift
  -- (1 - β) · bern n A, re-indexed to exponents n + 1 - k and extended by the vanishing term k = n + 1
  have h0 : (∑ k ∈ range (n + 1), (n.choose k : ℝ) * (1 - β) ^ (n - k) * β ^ k * A k) * (1 - β)
      = ∑ k ∈ range (n + 1 + 1), (n.choose k : ℝ) * (1 - β) ^ (n + 1 - k) * β ^ k * A k := by
    rw [sum_range_succ _ (n + 1), Nat.choose_succ_self, sum_mul]
    simp only [Nat.cast_zero, zero_mul, add_zero]
    refine sum_congr rfl fun k hk => ?_
    have : n + 1 - k = (n - k) + 1 := by have := mem_range.mp hk; omega
    rw [this, pow_succ]; ring
  have h1 : (∑ k ∈ range (n + 1), (n.choose k : ℝ) * (1 - β) ^ (n - k) * β ^ k * A (k + 1)) * β
      = ∑ k ∈ range (n + 1), (n.choose k : ℝ) * (1 - β) ^ (n + 1 - (k + 1)) * β ^ (k + 1) * A (k + 1) := by
    rw [sum_mul]
    refine sum_congr rfl fun k _ => ?_
    rw [Nat.add_sub_add_right, pow_succ]; ring
  rw [h0, h1, sum_range_succ' _ (n + 1), sum_range_succ' _ (n + 1), add_right_comm, ← sum_add_distrib]
  congr 1
  · refine sum_congr rfl fun k _ => ?_
    rw [Nat.choose_succ_succ]; push_cast; ring
  · simp

theorem e_eq_bern (n : ℕ) (A : ℕ → ℝ) (β : ℝ) : e n A β = bern n A β := by
  induction n generalizing A with
  | zero => simp [e, bern]
  | succ n ih => rw [e_succ, bern_succ, ih, ih]

/-- `Bezier(P, T).eval(t)` is the Bernstein polynomial of the control points in β = t / T. -/
theorem eval_bernstein (n : ℕ) (T : ℝ) (P : ℕ → ℝ) (t : ℝ) :
    eval n T P t = ∑ k ∈ range (n + 1), (n.choose k : ℝ) * (1 - t / T) ^ (n - k) * (t / T) ^ k * P k := by
  rw [eval_eq_e, e_eq_bern]; rfl

theorem eval_start (n : ℕ) (T : ℝ) (P : ℕ → ℝ) : eval n T P 0 = P 0 := by
  rw [eval_bernstein, sum_range_succ']
  simp

theorem eval_end (n : ℕ) (T : ℝ) (hT : T ≠ 0) (P : ℕ → ℝ) : eval n T P T = P n := by
  rw [eval_bernstein, sum_range_succ, div_self hT]
  have : ∀ k ∈ range n, (n.choose k : ℝ) * (1 - 1) ^ (n - k) * 1 ^ k * P k = 0 := by
    intro k hk
    have : n - k ≠ 0 := by have := mem_range.mp hk; omega
    simp [this]
  rw [sum_eq_zero this]; simp

def Δ (A : ℕ → ℝ) : ℕ → ℝ := fun k => A (k + 1) - A k

theorem e_shift_sub (n : ℕ) (A : ℕ → ℝ) (β : ℝ) : e n (shift A) β - e n A β = e n (Δ A) β := by
  have := e_linear n 1 (-1) (shift A) A β
  have h : (fun k => 1 * shift A k + -1 * A k) = Δ A := by funext k; simp [Δ, shift]; ring
  rw [h] at this; rw [this]; ring

theorem e_hasDerivAt (n : ℕ) (A : ℕ → ℝ) (β : ℝ) :
    HasDerivAt (fun b => e (n + 1) A b) ((n + 1 : ℝ) * e n (Δ A) β) β := by
  -- the product rule on the recursion `e_succ`
  induction n generalizing A with
  | zero =>
    simp only [e_succ 0, e_zero]
    have h := (((hasDerivAt_id' β).const_sub 1).const_mul (A 0)).fun_add ((hasDerivAt_id' β).const_mul (A 1))
    refine h.congr_deriv ?_
    simp only [Δ]; ring
  | succ n ih =>
    simp only [e_succ (n + 1)]
    have h := ((ih A).fun_mul ((hasDerivAt_id' β).const_sub 1)).fun_add ((ih (shift A)).fun_mul (hasDerivAt_id' β))
    refine h.congr_deriv ?_
    have hΔ := e_shift_sub (n + 1) A β
    have hrec := e_succ n (Δ A) β
    rw [show Δ (shift A) = shift (Δ A) from rfl]
    push_cast
    linear_combination (-(n + 1 : ℝ)) * hrec + hΔ

theorem npow_eq (x : ℝ) (m : ℕ) : npow x m = x ^ m := by
  induction m with
  | zero => simp [npow, cas_real]
  | succ m ih => simp [npow, cas_real, ih, pow_succ]

theorem diffStep_apply (c : ℝ) (D : ℕ → ℝ) (i : ℕ) : diffStep c D i = c * (D (i + 1) - D i) := by
  simp [diffStep, cas_real]

theorem deriv_apply (n m : ℕ) (T : ℝ) (P : ℕ → ℝ) (i : ℕ) :
    BezierModel.deriv n m T P i = derivRaw n m P i / T ^ m := by
  simp [BezierModel.deriv, cas_real, npow_eq]

/-- the control points of `deriv(m+1)` are those of `deriv(1)` of the curve `deriv(m)` (degree n − m) -/
theorem deriv_succ (n m : ℕ) (T : ℝ) (P : ℕ → ℝ) (i : ℕ) :
    BezierModel.deriv n (m + 1) T P i = ((n - m : ℕ) : ℝ) * (BezierModel.deriv n m T P (i + 1) - BezierModel.deriv n m T P i) / T := by
  rw [deriv_apply, deriv_apply, deriv_apply, derivRaw, diffStep_apply]
  simp only [cas_real]
  ring

/-- **`deriv(m+1).eval` is the time derivative of `deriv(m).eval`** for every degree n, every order
    m < n, every t (inside or outside [0, T]).  No `T ≠ 0`: with `x / 0 = 0` the curve of order m is
    constant and the one of order m + 1 is 0. -/
theorem hasDerivAt_evalDeriv (n m : ℕ) (hm : m < n) (T : ℝ) (P : ℕ → ℝ) (t : ℝ) :
    HasDerivAt (fun s => evalDeriv n m T P s) (evalDeriv n (m + 1) T P t) t := by
  unfold evalDeriv
  obtain ⟨d, hd⟩ : ∃ d, n - m = d + 1 := ⟨n - m - 1, by omega⟩
  have hd' : n - (m + 1) = d := by omega
  rw [hd, hd']
  simp only [eval_eq_e]
  have hin : HasDerivAt (fun s : ℝ => s / T) (1 / T) t := by
    simpa using (hasDerivAt_id t).div_const T
  have h := (e_hasDerivAt d (BezierModel.deriv n m T P) (t / T)).comp t hin
  refine h.congr_deriv ?_
  have hpts : BezierModel.deriv n (m + 1) T P = fun k => ((d + 1 : ℝ) / T) * Δ (BezierModel.deriv n m T P) k := by
    funext k; rw [deriv_succ, hd]; simp [Δ]; ring
  rw [hpts, e_smul]; ring

/-- `hasDerivAt_evalDeriv` with the hypothesis `T ≠ 0`, which is not needed -/
theorem evalDeriv_hasDerivAt (n m : ℕ) (hm : m < n) (T : ℝ) (_hT : T ≠ 0) (P : ℕ → ℝ) (t : ℝ) :
    HasDerivAt (fun s => evalDeriv n m T P s) (evalDeriv n (m + 1) T P t) t :=
  hasDerivAt_evalDeriv n m hm T P t

theorem evalDeriv_start (n m : ℕ) (T : ℝ) (P : ℕ → ℝ) : evalDeriv n m T P 0 = BezierModel.deriv n m T P 0 :=
  eval_start _ T _

theorem evalDeriv_end (n m : ℕ) (T : ℝ) (hT : T ≠ 0) (P : ℕ → ℝ) :
    evalDeriv n m T P T = BezierModel.deriv n m T P (n - m) :=
  eval_end _ T hT _

theorem deriv_zero (n : ℕ) (T : ℝ) (P : ℕ → ℝ) : BezierModel.deriv n 0 T P = P := by
  funext i; simp [deriv_apply, derivRaw]

/-- `Bezier(P, T).deriv(m).deriv(1)` has the control points of `Bezier(P, T).deriv(m + 1)` -/
theorem deriv_deriv_one (n m : ℕ) (T : ℝ) (P : ℕ → ℝ) :
    BezierModel.deriv (n - m) 1 T (BezierModel.deriv n m T P) = BezierModel.deriv n (m + 1) T P := by
  funext i
  rw [deriv_succ n m, deriv_succ (n - m) 0, deriv_zero, Nat.sub_zero]

theorem evalDeriv_zero (n : ℕ) (T : ℝ) (P : ℕ → ℝ) (t : ℝ) : evalDeriv n 0 T P t = eval n T P t := by
  rw [evalDeriv, deriv_zero]; rfl

theorem hasDerivAt_eval (n : ℕ) (hn : 0 < n) (T : ℝ) (P : ℕ → ℝ) (t : ℝ) :
    HasDerivAt (fun s => eval n T P s) (evalDeriv n 1 T P t) t := by
  simpa only [evalDeriv_zero] using hasDerivAt_evalDeriv n 0 hn T P t

/-- **every order at once**: the m-th iterated derivative of `eval` is `deriv(m).eval`, m ≤ n. -/
theorem iteratedDeriv_eval (n m : ℕ) (hm : m ≤ n) (T : ℝ) (hT : T ≠ 0) (P : ℕ → ℝ) :
    iteratedDeriv m (fun s => eval n T P s) = fun s => evalDeriv n m T P s := by
  induction m with
  | zero => funext s; simp [evalDeriv_zero]
  | succ m ih =>
    rw [iteratedDeriv_succ, ih (by omega)]
    funext s
    exact (evalDeriv_hasDerivAt n m (by omega) T hT P s).deriv

/-- control points of a translated program (1 × N matrix) as the model's column function -/
def pts {N : ℕ} (P : Fin 1 → Fin N → ℝ) : ℕ → ℝ := fun k => if h : k < N then P 0 ⟨k, h⟩ else 0

theorem pts_apply {N : ℕ} (P : Fin 1 → Fin N → ℝ) (k : Fin N) : pts P k = P 0 k := dif_pos k.isLt

theorem eval_pts_bernstein (n : ℕ) (T : ℝ) (P : Fin 1 → Fin (n + 1) → ℝ) (t : ℝ) :
    eval n T (pts P) t
      = ∑ k : Fin (n + 1), (n.choose k : ℝ) * (1 - t / T) ^ (n - (k:ℕ)) * (t / T) ^ (k:ℕ) * P 0 k := by
  rw [eval_bernstein, ← Fin.sum_univ_eq_sum_range]
  simp only [pts_apply]

/-- Unfolds the model at a literal degree, order and index, and the translated programs, to real-number
    expressions.  It closes a link `Gen.… = model` since both sides become the same expression, the model's
    recursion written out; what differs is that CasADi forms `T**m` by repeated squaring (`sq T`, `T * sq T`,
    `sq (sq T)`, …) and drops the factor `n - j = 1`. -/
macro "bezier_unfold" : tactic =>
  `(tactic| simp only [cas_defs, cas_real, evalDeriv, eval, iter, dcStep_apply, deriv_apply, derivRaw, diffStep_apply,
      pts, Nat.reduceAdd, Nat.reduceSub, Nat.reduceMul, Nat.reducePow, Nat.reduceLT, ↓reduceDIte, Fin.reduceFinMk,
      Fin.isValue, Nat.cast_ofNat, Nat.cast_one, one_mul, pow_one, ← pow_two, ← pow_succ', ← pow_mul])

theorem gen_eval1 (P : Fin 1 → Fin 2 → ℝ) (T t : ℝ) :
    Gen.bezier.eval1.p P T t = eval 1 T (pts P) t := by bezier_unfold
theorem gen_eval1_deriv1 (P : Fin 1 → Fin 2 → ℝ) (T t : ℝ) :
    Gen.bezier.eval1.d P T t = evalDeriv 1 1 T (pts P) t := by bezier_unfold
theorem gen_eval2 (P : Fin 1 → Fin 3 → ℝ) (T t : ℝ) :
    Gen.bezier.eval2.p P T t = eval 2 T (pts P) t := by bezier_unfold
theorem gen_eval2_deriv1 (P : Fin 1 → Fin 3 → ℝ) (T t : ℝ) :
    Gen.bezier.eval2.d_0 P T t = evalDeriv 2 1 T (pts P) t := by bezier_unfold
theorem gen_eval2_deriv2 (P : Fin 1 → Fin 3 → ℝ) (T t : ℝ) :
    Gen.bezier.eval2.d_1 P T t = evalDeriv 2 2 T (pts P) t := by bezier_unfold
theorem gen_eval3 (P : Fin 1 → Fin 4 → ℝ) (T t : ℝ) :
    Gen.bezier.eval3.p P T t = eval 3 T (pts P) t := by bezier_unfold
theorem gen_eval3_deriv1 (P : Fin 1 → Fin 4 → ℝ) (T t : ℝ) :
    Gen.bezier.eval3.d_0 P T t = evalDeriv 3 1 T (pts P) t := by bezier_unfold
theorem gen_eval3_deriv2 (P : Fin 1 → Fin 4 → ℝ) (T t : ℝ) :
    Gen.bezier.eval3.d_1 P T t = evalDeriv 3 2 T (pts P) t := by bezier_unfold
theorem gen_eval3_deriv3 (P : Fin 1 → Fin 4 → ℝ) (T t : ℝ) :
    Gen.bezier.eval3.d_2 P T t = evalDeriv 3 3 T (pts P) t := by bezier_unfold
theorem gen_eval4 (P : Fin 1 → Fin 5 → ℝ) (T t : ℝ) :
    Gen.bezier.eval4.p P T t = eval 4 T (pts P) t := by bezier_unfold
theorem gen_eval4_deriv1 (P : Fin 1 → Fin 5 → ℝ) (T t : ℝ) :
    Gen.bezier.eval4.d_0 P T t = evalDeriv 4 1 T (pts P) t := by bezier_unfold
theorem gen_eval4_deriv2 (P : Fin 1 → Fin 5 → ℝ) (T t : ℝ) :
    Gen.bezier.eval4.d_1 P T t = evalDeriv 4 2 T (pts P) t := by bezier_unfold
theorem gen_eval4_deriv3 (P : Fin 1 → Fin 5 → ℝ) (T t : ℝ) :
    Gen.bezier.eval4.d_2 P T t = evalDeriv 4 3 T (pts P) t := by bezier_unfold
theorem gen_eval4_deriv4 (P : Fin 1 → Fin 5 → ℝ) (T t : ℝ) :
    Gen.bezier.eval4.d_3 P T t = evalDeriv 4 4 T (pts P) t := by bezier_unfold
theorem gen_eval5 (P : Fin 1 → Fin 6 → ℝ) (T t : ℝ) :
    Gen.bezier.eval5.p P T t = eval 5 T (pts P) t := by bezier_unfold
theorem gen_eval5_deriv1 (P : Fin 1 → Fin 6 → ℝ) (T t : ℝ) :
    Gen.bezier.eval5.d_0 P T t = evalDeriv 5 1 T (pts P) t := by bezier_unfold
theorem gen_eval5_deriv2 (P : Fin 1 → Fin 6 → ℝ) (T t : ℝ) :
    Gen.bezier.eval5.d_1 P T t = evalDeriv 5 2 T (pts P) t := by bezier_unfold
theorem gen_eval5_deriv3 (P : Fin 1 → Fin 6 → ℝ) (T t : ℝ) :
    Gen.bezier.eval5.d_2 P T t = evalDeriv 5 3 T (pts P) t := by bezier_unfold
theorem gen_eval5_deriv4 (P : Fin 1 → Fin 6 → ℝ) (T t : ℝ) :
    Gen.bezier.eval5.d_3 P T t = evalDeriv 5 4 T (pts P) t := by bezier_unfold
theorem gen_eval5_deriv5 (P : Fin 1 → Fin 6 → ℝ) (T t : ℝ) :
    Gen.bezier.eval5.d_4 P T t = evalDeriv 5 5 T (pts P) t := by bezier_unfold
theorem gen_eval6 (P : Fin 1 → Fin 7 → ℝ) (T t : ℝ) :
    Gen.bezier.eval6.p P T t = eval 6 T (pts P) t := by bezier_unfold
theorem gen_eval6_deriv1 (P : Fin 1 → Fin 7 → ℝ) (T t : ℝ) :
    Gen.bezier.eval6.d_0 P T t = evalDeriv 6 1 T (pts P) t := by bezier_unfold
theorem gen_eval6_deriv2 (P : Fin 1 → Fin 7 → ℝ) (T t : ℝ) :
    Gen.bezier.eval6.d_1 P T t = evalDeriv 6 2 T (pts P) t := by bezier_unfold
theorem gen_eval6_deriv3 (P : Fin 1 → Fin 7 → ℝ) (T t : ℝ) :
    Gen.bezier.eval6.d_2 P T t = evalDeriv 6 3 T (pts P) t := by bezier_unfold
theorem gen_eval6_deriv4 (P : Fin 1 → Fin 7 → ℝ) (T t : ℝ) :
    Gen.bezier.eval6.d_3 P T t = evalDeriv 6 4 T (pts P) t := by bezier_unfold
theorem gen_eval6_deriv5 (P : Fin 1 → Fin 7 → ℝ) (T t : ℝ) :
    Gen.bezier.eval6.d_4 P T t = evalDeriv 6 5 T (pts P) t := by bezier_unfold
theorem gen_eval6_deriv6 (P : Fin 1 → Fin 7 → ℝ) (T t : ℝ) :
    Gen.bezier.eval6.d_5 P T t = evalDeriv 6 6 T (pts P) t := by bezier_unfold
theorem gen_eval7 (P : Fin 1 → Fin 8 → ℝ) (T t : ℝ) :
    Gen.bezier.eval7.p P T t = eval 7 T (pts P) t := by bezier_unfold
theorem gen_eval7_deriv1 (P : Fin 1 → Fin 8 → ℝ) (T t : ℝ) :
    Gen.bezier.eval7.d_0 P T t = evalDeriv 7 1 T (pts P) t := by bezier_unfold
theorem gen_eval7_deriv2 (P : Fin 1 → Fin 8 → ℝ) (T t : ℝ) :
    Gen.bezier.eval7.d_1 P T t = evalDeriv 7 2 T (pts P) t := by bezier_unfold
theorem gen_eval7_deriv3 (P : Fin 1 → Fin 8 → ℝ) (T t : ℝ) :
    Gen.bezier.eval7.d_2 P T t = evalDeriv 7 3 T (pts P) t := by bezier_unfold
theorem gen_eval7_deriv4 (P : Fin 1 → Fin 8 → ℝ) (T t : ℝ) :
    Gen.bezier.eval7.d_3 P T t = evalDeriv 7 4 T (pts P) t := by bezier_unfold
theorem gen_eval7_deriv5 (P : Fin 1 → Fin 8 → ℝ) (T t : ℝ) :
    Gen.bezier.eval7.d_4 P T t = evalDeriv 7 5 T (pts P) t := by bezier_unfold
theorem gen_eval7_deriv6 (P : Fin 1 → Fin 8 → ℝ) (T t : ℝ) :
    Gen.bezier.eval7.d_5 P T t = evalDeriv 7 6 T (pts P) t := by bezier_unfold
theorem gen_eval7_deriv7 (P : Fin 1 → Fin 8 → ℝ) (T t : ℝ) :
    Gen.bezier.eval7.d_6 P T t = evalDeriv 7 7 T (pts P) t := by bezier_unfold

example : eval 2 (2:ℝ) (fun k => (k:ℝ)) 1 = 1 := by
  rw [eval_bernstein]; simp [sum_range_succ]; norm_num

end C18G
