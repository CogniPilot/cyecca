/-
  Props/C19.lean — SymPy ↔ CasADi conversion preserves meaning: soundness of the hand model
  (Model/Symbolic.lean) of cyecca/symbolic.py's two converters, for ALL expression trees, by structural induction.
  The model is tied to the real converters by the differential runs of harness/props/C19.py.
-/
import Model.Symbolic
import Cas.Real

open Sym

namespace C19

/-- value of a dyadic constant m·2^e -/
noncomputable def dy (m e : Int) : ℝ := (m : ℝ) * (2 : ℝ) ^ e

noncomputable def b2r (p : Prop) [Decidable p] : ℝ := if p then 1 else 0

/-- sympy Mod for real arguments: a − b·⌊a/b⌋ -/
noncomputable def smod (a b : ℝ) : ℝ := a - b * (⌊a / b⌋ : ℝ)

/-- unary functions: the ones whose meaning the converters rely on are fixed; all others are one uninterpreted
    function per name, THE SAME on both sides (the converters map them name to name) -/
noncomputable def ufnR (ufn : UFn → ℝ → ℝ) : UFn → ℝ → ℝ
  | .abs => fun x => |x|
  | .sign => CasReal.sign
  | .floor => fun x => (⌊x⌋ : ℝ)
  | .ceil => fun x => (⌈x⌉ : ℝ)
  | f => ufn f

noncomputable def relR : Rel → ℝ → ℝ → ℝ
  | .lt, a, b => b2r (a < b) | .le, a, b => b2r (a ≤ b) | .eq, a, b => b2r (a = b)
  | .ne, a, b => b2r (a ≠ b) | .gt, a, b => b2r (a > b) | .ge, a, b => b2r (a ≥ b)

/-- meaning of a SymPy tree: symbols by name, user functions by name -/
noncomputable def evalS (env : String → ℝ) (fenv : String → ℝ → ℝ) (ufn : UFn → ℝ → ℝ) : S → ℝ
  | .int n => n | .rat p q => (p : ℝ) / q | .flt m e => dy m e
  | .half => 1 / 2 | .one => 1 | .zero => 0 | .negone => -1
  | .pyint n => n | .pybool b => if b then 1 else 0
  | .sym n => env n
  | .add a b => evalS env fenv ufn a + evalS env fenv ufn b
  | .mul a b => evalS env fenv ufn a * evalS env fenv ufn b
  | .pow b e => (evalS env fenv ufn b) ^ (evalS env fenv ufn e)
  | .un f a => ufnR ufn f (evalS env fenv ufn a)
  | .app g a => fenv g (evalS env fenv ufn a)
  | .mod a b => smod (evalS env fenv ufn a) (evalS env fenv ufn b)
  | .atan2 a b => CasReal.atan2 (evalS env fenv ufn a) (evalS env fenv ufn b)
  | .rel r a b => relR r (evalS env fenv ufn a) (evalS env fenv ufn b)
  | .not a => b2r (evalS env fenv ufn a = 0)
  | .and a b => b2r (evalS env fenv ufn a ≠ 0 ∧ evalS env fenv ufn b ≠ 0)
  | .or a b => b2r (evalS env fenv ufn a ≠ 0 ∨ evalS env fenv ufn b ≠ 0)
  | .pw v c d => if evalS env fenv ufn c ≠ 0 then evalS env fenv ufn v else evalS env fenv ufn d
  | .other _ => 0

noncomputable def op1R (ufn : UFn → ℝ → ℝ) : Op1 → ℝ → ℝ
  | .neg => fun x => -x | .sqrt => Real.sqrt | .sq => fun x => x * x | .twice => fun x => 2 * x
  | .not => fun x => b2r (x = 0) | .inv => fun x => x⁻¹
  | .exp => ufn .exp | .log => ufn .log | .sin => ufn .sin | .cos => ufn .cos | .tan => ufn .tan
  | .asin => ufn .asin | .acos => ufn .acos | .atan => ufn .atan
  | .floor => fun x => (⌊x⌋ : ℝ) | .ceil => fun x => (⌈x⌉ : ℝ) | .fabs => fun x => |x| | .sign => CasReal.sign
  | .erf => ufn .erf | .sinh => ufn .sinh | .cosh => ufn .cosh | .tanh => ufn .tanh
  | .asinh => ufn .asinh | .acosh => ufn .acosh | .atanh => ufn .atanh

noncomputable def op2R : Op2 → ℝ → ℝ → ℝ
  | .add => (· + ·) | .sub => (· - ·) | .mul => (· * ·) | .div => (· / ·)
  | .pow => fun a b => a ^ b | .constpow => fun a b => a ^ b
  | .lt => fun a b => b2r (a < b) | .le => fun a b => b2r (a ≤ b) | .eq => fun a b => b2r (a = b) | .ne => fun a b => b2r (a ≠ b)
  | .and => fun a b => b2r (a ≠ 0 ∧ b ≠ 0) | .or => fun a b => b2r (a ≠ 0 ∨ b ≠ 0)
  | .fmod => CasReal.fmod | .copysign => fun a b => if b < 0 then -|a| else |a|
  | .ifz => fun c v => if c ≠ 0 then v else 0
  | .fmin => fun a b => if a < b then a else b | .fmax => fun a b => if a > b then a else b
  | .atan2 => CasReal.atan2 | .remainder => CasReal.remainder | .hypot => fun a b => Real.sqrt (a * a + b * b)

/-- meaning of a CasADi tree (opcode semantics as in Cas/Real.lean) -/
noncomputable def evalC (env : String → ℝ) (fenv : String → ℝ → ℝ) (ufn : UFn → ℝ → ℝ) : C → ℝ
  | .cint n => n | .const m e => dy m e | .sym n => env n
  | .un op a => op1R ufn op (evalC env fenv ufn a)
  | .bin op a b => op2R op (evalC env fenv ufn a) (evalC env fenv ufn b)
  | .call g a => fenv g (evalC env fenv ufn a)
  | .unsupported _ => 0

theorem bind_ok {α β : Type} (x : Except String α) (f : α → Except String β) (c : β)
    (h : (x >>= f) = .ok c) : ∃ a, x = .ok a ∧ f a = .ok c := by
  cases x with
  | error e => simp [bind, Except.bind] at h
  | ok a => exact ⟨a, rfl, by simpa [bind, Except.bind] using h⟩

theorem pure_ok {α : Type} (a c : α) (h : (pure a : Except String α) = .ok c) : a = c := by
  simpa [pure, Except.pure] using h

theorem trigOf_sound (ufn : UFn → ℝ → ℝ) {f : UFn} {op : Op1} (h : trigOf f = some op) : op1R ufn op = ufnR ufn f := by
  cases f <;> simp only [trigOf, Option.some.injEq, reduceCtorEq] at h <;> subst h <;> rfl

section
variable (env : String → ℝ) (fenv : String → ℝ → ℝ) (ufn : UFn → ℝ → ℝ)

/-- sympy → casadi: whenever the converter returns an expression it has the same value as its input at every point,
    for every interpretation of the symbols and of the user functions.  The user-function map sends a name to the
    map REGISTERED UNDER THAT NAME (`fenv g`) — not to the first entry. -/
theorem s2c_sound (fd : List String)
    -- a user map registered under the name of a sympy function the converter has no case of its own for
    -- (exp, log, asin, …) is that function
    (hfd : ∀ f : UFn, f.name ∈ fd → fenv f.name = ufnR ufn f) :
    ∀ (e : S) (c : C), s2c fd e = .ok c → evalC env fenv ufn c = evalS env fenv ufn e := by
  intro e
  induction e with
  | add a b iha ihb | mul a b iha ihb =>
      intro c h
      simp only [s2c] at h
      obtain ⟨x, hx, h⟩ := bind_ok _ _ _ h
      obtain ⟨y, hy, h⟩ := bind_ok _ _ _ h
      cases pure_ok _ _ h
      simp [evalC, evalS, op2R, iha _ hx, ihb _ hy]
  | pow b e ihb ihe =>
      intro c h
      simp only [s2c] at h
      obtain ⟨x, hx, h⟩ := bind_ok _ _ _ h
      split at h
      · cases pure_ok _ _ h
        simp [evalC, evalS, op1R, ihb _ hx, Real.sqrt_eq_rpow]
      · obtain ⟨y, hy, h⟩ := bind_ok _ _ _ h
        cases pure_ok _ _ h
        simp [evalC, evalS, op2R, ihb _ hx, ihe _ hy]
  | un f a iha =>
      intro c h
      simp only [s2c] at h
      split at h
      · rename_i op hop
        obtain ⟨x, hx, h⟩ := bind_ok _ _ _ h
        cases pure_ok _ _ h
        simp [evalC, evalS, trigOf_sound ufn hop, iha _ hx]
      · by_cases hm : fd.contains f.name = true
        · rw [if_pos hm] at h
          obtain ⟨x, hx, h⟩ := bind_ok _ _ _ h
          cases pure_ok _ _ h
          have := hfd f (by simpa using hm)
          simp [evalC, evalS, iha _ hx, this]
        · rw [if_neg hm] at h
          cases h
  | app g a iha =>
      intro c h
      simp only [s2c] at h
      split at h
      · obtain ⟨x, hx, h⟩ := bind_ok _ _ _ h
        cases pure_ok _ _ h
        simp [evalC, evalS, iha _ hx]
      · cases h
  | int n | pyint n | rat p q | flt m e | half | one | zero | negone | sym n =>
      intro c h
      cases pure_ok _ _ h
      simp [evalC, evalS, op2R, dy]
  | _ => intro c h; simp [s2c] at h

/-- C fmod (truncated division) written with sympy's floored Mod: sign(a)·(|a| mod |b|) -/
theorem fmod_eq (a b : ℝ) : CasReal.fmod a b = CasReal.sign a * smod |a| |b| := by
  unfold CasReal.fmod CasReal.sign smod
  rcases lt_trichotomy a 0 with ha | ha | ha
  · rcases lt_trichotomy b 0 with hb | hb | hb
    · have hq : ¬ a / b < 0 := not_lt.mpr (div_nonneg_of_nonpos ha.le hb.le)
      simp only [hq, if_false, ha, if_true, abs_of_neg ha, abs_of_neg hb, neg_div_neg_eq]
      ring
    · subst hb; simp [ha, abs_of_neg ha]
    · have hq : a / b < 0 := div_neg_of_neg_of_pos ha hb
      have e : (⌈a / b⌉ : ℝ) = -(⌊-a / b⌋ : ℝ) := by
        rw [neg_div, Int.floor_neg]; simp
      simp only [hq, if_true, ha, abs_of_neg ha, abs_of_pos hb, e]
      ring
  · subst ha; simp
  · have hna : ¬ a < 0 := not_lt.mpr ha.le
    rcases lt_trichotomy b 0 with hb | hb | hb
    · have hq : a / b < 0 := div_neg_of_pos_of_neg ha hb
      have e : (⌈a / b⌉ : ℝ) = -(⌊a / -b⌋ : ℝ) := by
        rw [div_neg, Int.floor_neg]; simp
      simp only [hq, if_true, hna, if_false, ha, abs_of_pos ha, abs_of_neg hb, e]
      ring
    · subst hb; simp [ha, hna, abs_of_pos ha]
    · have hq : ¬ a / b < 0 := not_lt.mpr (div_nonneg ha.le hb.le)
      simp only [hq, if_false, hna, ha, if_true, abs_of_pos ha, abs_of_pos hb]
      ring

theorem smod_two_int (k : ℤ) : smod (k : ℝ) 2 = 1 ↔ Odd k := by
  have h : ⌊(k : ℝ) / 2⌋ = k / 2 := by
    rw [show (2 : ℝ) = ((2 : ℕ) : ℝ) by norm_num, Int.floor_div_natCast, Int.floor_intCast]
    rfl
  rw [smod, h, Int.odd_iff, Int.emod_def]
  norm_cast

/-- round-half-even through floor and a tie indicator -/
theorem roundHalfEven_eq (q : ℝ) :
    (CasReal.roundHalfEven q : ℝ) = (⌊q + 1 / 2⌋ : ℝ) - (if smod (q + 1 / 2) 2 = 1 then 1 else 0) := by
  unfold CasReal.roundHalfEven
  by_cases hf : Int.fract q = 1 / 2
  · -- a tie: q + 1/2 is the integer ⌊q⌋ + 1, and the indicator asks whether it is odd
    have hh : q + 1 / 2 = ((⌊q⌋ + 1 : ℤ) : ℝ) := by
      have := Int.floor_add_fract q
      push_cast
      linarith
    rw [if_pos hf, hh, Int.floor_intCast]
    simp only [smod_two_int, odd_add_one]
    split_ifs <;> push_cast <;> ring
  · -- no tie: were q + 1/2 ≡ 1 mod 2, it would be an integer
    have hn : ¬ smod (q + 1 / 2) 2 = 1 := by
      intro h
      apply hf
      unfold smod at h
      have hq : q = ((2 * ⌊(q + 1 / 2) / 2⌋ : ℤ) : ℝ) + 1 / 2 := by push_cast; linarith
      rw [hq, Int.fract_intCast_add, Int.fract_eq_iff]
      exact ⟨by norm_num, by norm_num, 0, by simp⟩
    rw [if_neg hf, if_neg hn, round_eq, sub_zero]

theorem b2r_ne_zero (p : Prop) [Decidable p] : b2r p ≠ 0 ↔ p := by
  unfold b2r
  split_ifs with h <;> simp [h]

/-- casadi → sympy: whenever the converter returns a tree it has the same value; opcodes without a sympy counterpart
    (constpow, copysign, hypot, acosh, ceil, calls) make it fail rather than return one -/
theorem c2s_sound : ∀ (c : C) (s : S), c2s c = .ok s → evalS env fenv ufn s = evalC env fenv ufn c := by
  intro c
  induction c with
  | cint n => intro s h; cases pure_ok _ _ h; simp [evalC, evalS]
  | const m e => intro s h; cases pure_ok _ _ h; simp [evalC, evalS]
  | sym n => intro s h; cases pure_ok _ _ h; simp [evalC, evalS]
  | call g a _ => intro s h; simp [c2s] at h
  | unsupported t => intro s h; simp [c2s] at h
  | un op a iha =>
      intro s h
      simp only [c2s] at h
      obtain ⟨x, hx, h⟩ := bind_ok _ _ _ h
      have ih := iha _ hx
      cases op
      case acosh | ceil => cases h
      case neg | sqrt | sq | twice | not | inv =>
        cases pure_ok _ _ h
        simp [evalC, evalS, op1R, ih, Real.sqrt_eq_rpow, Real.rpow_neg_one, b2r, sq]
      all_goals
        simp only [un1] at h
        cases pure_ok _ _ h
        simp [evalC, evalS, op1R, ufnR, ih]
  | bin op a b iha ihb =>
      intro s h
      simp only [c2s] at h
      obtain ⟨x, hx, h⟩ := bind_ok _ _ _ h
      obtain ⟨y, hy, h⟩ := bind_ok _ _ _ h
      have ia := iha _ hx
      have ib := ihb _ hy
      cases op
      case constpow | copysign | hypot => cases h
      case fmod =>
        cases pure_ok _ _ h
        simp [evalC, evalS, op2R, ufnR, ia, ib, fmod_eq]
      case remainder =>
        cases pure_ok _ _ h
        simp only [evalC, evalS, op2R, ufnR, relR, ia, ib, b2r_ne_zero, Int.cast_ofNat, Real.rpow_neg_one,
          ← div_eq_mul_inv]
        rw [CasReal.remainder, roundHalfEven_eq]
        split_ifs <;> ring
      all_goals
        cases pure_ok _ _ h
        simp [evalC, evalS, op2R, relR, ia, ib, Real.rpow_neg_one, b2r, div_eq_mul_inv, sub_eq_add_neg]
end

end C19
