/-
  Props/C20.lean — the simulation bus and the estimator node's rate limits: theorems about the hand model
  lean/Model/Bus.lean, for ALL operation histories (induction over the operation list).
  The model is tied to cyecca/sim/uros.py and cyecca/estimate/attitude/estimator.py by the differential runs of harness/props/C20.py.
-/
import Model.Bus
import Mathlib.Tactic.Linarith

open Bus

namespace C20

theorem deliver_frame (s : St) (topic : String) (p : Int) :
    (deliver s topic p).inbox = s.inbox ++ (subsOf s topic).map (fun u => (u, topic, p))
    ∧ (deliver s topic p).subs = s.subs ∧ (deliver s topic p).pubs = s.pubs ∧ (deliver s topic p).core = s.core
    ∧ (deliver s topic p).cache = s.cache ∧ (deliver s topic p).logging = s.logging
    ∧ (deliver s topic p).logsubs = s.logsubs := by
  simp only [deliver]
  split <;> simp

theorem followers_deliver (s : St) (topic : String) (p : Int) : followers (deliver s topic p) = followers s := by
  obtain ⟨-, hs, -, -, -, hl, hls⟩ := deliver_frame s topic p
  simp only [followers, subsOf, hs, hl, hls]

/-- a message of the declared type is delivered to exactly the subscribers of its topic, once each, in subscription
    order, appended to what was delivered before; topology untouched -/
theorem publish_fanout (s : St) (topic ty : String) (p : Int) (h : s.pubs.lookup topic = some ty) :
    (step s (.publish topic ty p)).2 = .ok
    ∧ (step s (.publish topic ty p)).1.inbox = s.inbox ++ (subsOf s topic).map (fun u => (u, topic, p))
    ∧ (step s (.publish topic ty p)).1.subs = s.subs ∧ (step s (.publish topic ty p)).1.pubs = s.pubs := by
  obtain ⟨hi, hs, hp, -⟩ := deliver_frame s topic p
  simp only [step, h, ne_eq, not_true_eq_false, if_false, hi, hs, hp, and_self]

/-- a message of the wrong type is rejected and nothing at all changes -/
theorem publish_wrong_type (s : St) (topic ty ty' : String) (p : Int) (h : s.pubs.lookup topic = some ty') (hne : ty' ≠ ty) :
    step s (.publish topic ty p) = (s, .error "ValueError") := by
  simp [step, h, hne]

def InboxOk (s : St) : Prop := ∀ e ∈ s.inbox, (e.2.1, e.1) ∈ s.subs

theorem mem_subsOf {s : St} {topic : String} {u : Nat} (h : u ∈ subsOf s topic) : (topic, u) ∈ s.subs := by
  simp only [subsOf, List.mem_map, List.mem_filter, decide_eq_true_eq] at h
  obtain ⟨⟨t, v⟩, ⟨hm, ht⟩, hv⟩ := h
  simp only at ht hv; subst ht; subst hv; exact hm

/-- the invariant looks at the inbox and the subscriptions only, and more subscriptions do not hurt -/
theorem InboxOk.mono {s s' : St} (h : InboxOk s) (hi : s'.inbox = s.inbox) (hs : s.subs ⊆ s'.subs) : InboxOk s' := by
  intro e he
  rw [hi] at he
  exact hs (h e he)

theorem deliver_ok (s : St) (topic : String) (p : Int) (h : InboxOk s) : InboxOk (deliver s topic p) := by
  obtain ⟨hi, hs, -⟩ := deliver_frame s topic p
  intro e he
  rw [hi] at he
  rw [hs]
  rcases List.mem_append.mp he with h1 | h2
  · exact h e h1
  · obtain ⟨u, hu, rfl⟩ := List.mem_map.mp h2
    exact mem_subsOf hu

theorem broadcast_ok (s : St) (c : List (String × Int)) (h : InboxOk s) : InboxOk (broadcast s c) :=
  (deliver_ok { s with core := some c } "params" 0 h).mono rfl (List.Subset.refl _)

theorem ticks_inbox (fuel : Nat) (t : Int) (s : St) : (ticks fuel t s).inbox = s.inbox ∧ (ticks fuel t s).subs = s.subs := by
  induction fuel generalizing s with
  | zero => exact ⟨rfl, rfl⟩
  | succ n ih =>
    simp only [ticks]
    split
    · exact ih { s with rows := _, nextTick := _ }
    · exact ⟨rfl, rfl⟩

/-- every operation either leaves inbox and subscriptions alone, or adds a subscription, or delivers -/
theorem step_ok (s : St) (op : Op) (h : InboxOk s) : InboxOk (step s op).1 := by
  cases op with
  | advertise topic ty | declare node name d | startLogger =>
      simp only [step]
      split_ifs <;> exact h
  | initParams => exact h
  | subscribe topic id =>
      simp only [step]
      split_ifs
      · exact h
      · exact h.mono rfl (List.subset_append_left _ _)
  | publish topic ty p =>
      simp only [step]
      split
      · exact h
      · split_ifs
        · exact h
        · exact deliver_ok _ _ _ h
  | setParam name v =>
      simp only [step]
      split
      · exact h
      · split_ifs
        · exact h
        · exact broadcast_ok _ _ h
  | runUntil t =>
      simp only [step]
      have hb := broadcast_ok s (coreOrInit s) h
      obtain ⟨hi, hs⟩ := ticks_inbox (t - (broadcast s (coreOrInit s)).nextTick).toNat.succ t (broadcast s (coreOrInit s))
      split_ifs
      · exact hb
      · exact hb.mono hi (hs ▸ List.Subset.refl _)
      · exact hb

theorem run_ok (ops : List Op) (s : St) (h : InboxOk s) : InboxOk (run s ops).1 := by
  induction ops generalizing s with
  | nil => exact h
  | cons op ops ih => exact ih _ (step_ok s op h)

/-- for every history from the initial state: each delivery went to a subscriber of its topic -/
theorem no_one_else (ops : List Op) : InboxOk (run {} ops).1 :=
  run_ok ops {} (fun _ he => nomatch he)

/-! ### exactly once and in publication order, for every sequence of publications on a fixed topology -/

def accepted (s : St) (m : String × String × Int) : Bool := s.pubs.lookup m.1 == some m.2.1

def pubOps (ms : List (String × String × Int)) : List Op := ms.map fun m => .publish m.1 m.2.1 m.2.2

/-- a publication that is not accepted (no publisher, or a message of another type) changes nothing -/
theorem publish_rejected (s : St) (topic ty : String) (p : Int) (h : accepted s (topic, ty, p) = false) :
    (step s (.publish topic ty p)).1 = s := by
  simp only [accepted, beq_eq_false_iff_ne, ne_eq] at h
  cases ht : s.pubs.lookup topic with
  | none => simp only [step, ht]
  | some t => rw [publish_wrong_type s topic ty t p ht (fun e => h (by rw [ht, e]))]

theorem publications_in_order (ms : List (String × String × Int)) (s : St) :
    (run s (pubOps ms)).1.inbox
      = s.inbox ++ (ms.filter (accepted s)).flatMap (fun m => (subsOf s m.1).map (fun u => (u, m.1, m.2.2)))
    ∧ (run s (pubOps ms)).1.subs = s.subs ∧ (run s (pubOps ms)).1.pubs = s.pubs := by
  induction ms generalizing s with
  | nil => simp [pubOps, run]
  | cons m ms ih =>
    obtain ⟨topic, ty, p⟩ := m
    have hrun : (run s (pubOps ((topic, ty, p) :: ms))).1 = (run (step s (.publish topic ty p)).1 (pubOps ms)).1 := rfl
    rw [hrun, List.filter_cons]
    by_cases hacc : accepted s (topic, ty, p) = true
    · obtain ⟨_, hi, hs, hp⟩ := publish_fanout s topic ty p (by simpa [accepted] using hacc)
      obtain ⟨a, b, c⟩ := ih (step s (.publish topic ty p)).1
      -- the topology is as before, so the remaining publications are accepted and fanned out as from `s`
      have hsub : ∀ T, subsOf (step s (.publish topic ty p)).1 T = subsOf s T := fun T => by simp only [subsOf, hs]
      have hacc' : accepted (step s (.publish topic ty p)).1 = accepted s := by funext m; simp only [accepted, hp]
      rw [a, b, c, hi, hs, hp, hacc', if_pos hacc, List.flatMap_cons]
      simp only [hsub, List.append_assoc, and_self]
    · rw [publish_rejected s topic ty p (by simpa using hacc), if_neg hacc]
      exact ih s

/-! ### the logger's lock freezes the topology -/
theorem locked_rejects (s : St) (h : s.locked = true) (topic ty : String) (id node : Nat) (name : String) (d : Int) :
    step s (.advertise topic ty) = (s, .error "AssertionError") ∧ step s (.subscribe topic id) = (s, .error "AssertionError")
    ∧ step s (.declare node name d) = (s, .error "AssertionError") ∧ step s .startLogger = (s, .error "AssertionError") := by
  simp [step, h]

theorem startLogger_locks (s : St) (h : (step s .startLogger).2 = .ok) : (step s .startLogger).1.locked = true := by
  simp only [step] at h ⊢
  split_ifs at h ⊢
  rfl

theorem setKey_lookup (k : String) (v : Int) (l : List (String × Int)) : (setKey k v l).lookup k = some v := by
  induction l with
  | nil => simp [setKey]
  | cons a t ih =>
    obtain ⟨k', v'⟩ := a
    simp only [setKey]
    by_cases h : k' = k
    · simp [h]
    · have : (k == k') = false := by simp [Ne.symm h]
      simp [h, List.lookup, this, ih]

/-- after an accepted `set_param name v` every node that follows the parameter topic holds v in each of its
    parameters called `name`; parameters of nodes that do not follow it are untouched -/
theorem setParam_seen (s : St) (name : String) (v : Int) (c : List (String × Int)) (hc : s.core = some c)
    (hd : (c.lookup name).isSome) :
    let s' := (step s (.setParam name v)).1
    (step s (.setParam name v)).2 = .ok
    ∧ s'.core = some (setKey name v c)
    ∧ s'.cache = s.cache.map (fun e => if (followers s).contains e.1 then (e.1, e.2.1, ((setKey name v c).lookup e.2.1).getD e.2.2) else e)
    ∧ ∀ e ∈ s'.cache, (followers s).contains e.1 = true → e.2.1 = name → e.2.2 = v := by
  have hn : ¬ (c.lookup name).isNone = true := by
    cases hl : c.lookup name with
    | none => simp [hl] at hd
    | some x => simp
  obtain ⟨-, -, -, hcore, hcache, -⟩ := deliver_frame { s with core := some (setKey name v c) } "params" 0
  have hstep : step s (.setParam name v) = (broadcast s (setKey name v c), .ok) := by
    simp [step, hc, hn]
  have hcache' : (broadcast s (setKey name v c)).cache
      = s.cache.map (fun e => if (followers s).contains e.1 then (e.1, e.2.1, ((setKey name v c).lookup e.2.1).getD e.2.2) else e) := by
    simp only [broadcast, refresh, followers_deliver, hcache]
    rfl
  refine ⟨by rw [hstep], by rw [hstep]; exact hcore, by rw [hstep]; exact hcache', ?_⟩
  intro e he hfol hname
  rw [hstep] at he
  simp only at he
  rw [hcache'] at he
  simp only [List.mem_map] at he
  obtain ⟨⟨n, nm, x⟩, _, rfl⟩ := he
  by_cases hc' : (followers s).contains n = true
  · simp only [hc', if_true] at hname ⊢
    subst hname
    simp [setKey_lookup]
  · exfalso
    simp only [hc'] at hfol
    exact hc' (by simpa using hfol)

/-- each wake-up of the logger appends exactly one row: its time stamp and the latest message of every topic -/
theorem tick_row (fuel : Nat) (t : Int) (s : St) (h : s.nextTick < t) :
    ∃ dt, ticks (fuel + 1) t s = ticks fuel t { s with rows := s.rows ++ [(s.nextTick, s.latest)], nextTick := s.nextTick + dt } := by
  simp only [ticks, h, if_true]
  exact ⟨_, rfl⟩

/-- row times are non-decreasing and none is later than the next tick (invariant of the rows written during one `run(until=t)`) -/
def RowsLe (s : St) : Prop := s.rows.Pairwise (fun a b => a.1 ≤ b.1) ∧ ∀ r ∈ s.rows, r.1 ≤ s.nextTick

def period (s : St) : Int := ((s.cache.filter fun (n, nm, _) => n = loggerNode ∧ nm = "logger/dt").map (·.2.2)).headD 1

theorem ticks_sorted (fuel : Nat) (t : Int) (s : St) (hp : 0 ≤ period s) (h : RowsLe s) : RowsLe (ticks fuel t s) := by
  induction fuel generalizing s with
  | zero => exact h
  | succ n ih =>
    simp only [ticks]
    split
    · apply ih
      · exact hp
      · obtain ⟨hs, hb⟩ := h
        refine ⟨?_, ?_⟩
        · rw [List.pairwise_append]
          refine ⟨hs, by simp, ?_⟩
          intro a ha b hb'
          simp only [List.mem_singleton] at hb'
          subst hb'
          exact hb a ha
        · intro r hr
          have hp' : 0 ≤ ((s.cache.filter fun (n, nm, _) => n = loggerNode ∧ nm = "logger/dt").map (·.2.2)).headD 1 := hp
          rcases List.mem_append.mp hr with h1 | h2
          · have := hb r h1; simp only; linarith
          · simp only [List.mem_singleton] at h2; subst h2; simp only; linarith
    · exact h

/-- a delivery on a logged topic becomes that topic's latest entry -/
theorem deliver_latest (s : St) (topic : String) (p : Int) (hl : s.logging = true) (ht : s.logsubs.contains topic = true) :
    (deliver s topic p).latest.lookup topic = some p := by
  simp only [deliver, hl, ht, Bool.and_self, if_true]
  exact setKey_lookup topic p s.latest

/-! ### estimator node: never a non-positive prediction step; corrections no more often than their minimum
    periods minus the 1 ms tolerance — checked by an independent monitor that only sees the actions -/

structure Mon where
  lastA : Option Int := none
  lastM : Option Int := none

def check (dtA dtM : Int) : Mon → List Act → Option Mon
  | m, [] => some m
  | m, .predict _ dt :: r => if 0 < dt then check dtA dtM m r else none
  | m, .accel t :: r =>
      match m.lastA with
      | some p => if t - p ≥ dtA - timeEps then check dtA dtM { m with lastA := some t } r else none
      | none => check dtA dtM { m with lastA := some t } r
  | m, .mag t :: r =>
      match m.lastM with
      | some p => if t - p ≥ dtM - timeEps then check dtA dtM { m with lastM := some t } r else none
      | none => check dtA dtM { m with lastM := some t } r
  | m, _ :: r => check dtA dtM m r

def monitor : Node → Mon → List Msg → Bool
  | _, _, [] => true
  | n, m, x :: xs =>
      match check (nstep n x).1.dtMinAccel (nstep n x).1.dtMinMag m (nstep n x).2 with
      | none => false
      | some m' => monitor (nstep n x).1 m' xs

/-- the invariant that lets an independent monitor follow the node: once it has seen a correction, its last-correction
    time is the node's -/
def Agree (n : Node) (m : Mon) : Prop :=
  (m.lastA = none ∨ m.lastA = some n.tAccel) ∧ (m.lastM = none ∨ m.lastM = some n.tMag)

/-- what one message makes the node do, as far as its rate limits are concerned: nothing the monitor looks at
    (the limits themselves may change), a prediction over a positive step, with or without an accelerometer correction
    that is due, or a magnetometer correction that is due -/
theorem nstep_cases (n : Node) (x : Msg) :
    (((nstep n x).2 = [] ∨ (∃ t, (nstep n x).2 = [.init t]) ∨ ∃ t, (nstep n x).2 = [.initFailed t])
      ∧ (nstep n x).1.tAccel = n.tAccel ∧ (nstep n x).1.tMag = n.tMag)
    ∨ (∃ t dt, 0 < dt ∧ nstep n x = ({ n with tImu := t }, [.predict t dt]))
    ∨ (∃ t dt, 0 < dt ∧ t - n.tAccel ≥ n.dtMinAccel - timeEps
        ∧ nstep n x = ({ n with tImu := t, tAccel := t }, [.predict t dt, .accel t]))
    ∨ ∃ t, t - n.tMag ≥ n.dtMinMag - timeEps ∧ nstep n x = ({ n with haveMag := true, tMag := t }, [.mag t]) := by
  cases x with
  | setDtMin a b => exact .inl ⟨.inl rfl, rfl, rfl⟩
  | mag t =>
    simp only [nstep]
    split_ifs with hc
    · exact .inl ⟨.inl rfl, rfl, rfl⟩
    · simp only [Bool.or_eq_true, Bool.not_eq_true', decide_eq_true_eq, not_or, not_lt] at hc
      exact .inr (.inr (.inr ⟨t, hc.2, rfl⟩))
  | imu t ok =>
    simp only [nstep]
    split_ifs with h1 h2 h3 h4 h5
    · exact .inl ⟨.inr (.inl ⟨t, rfl⟩), rfl, rfl⟩
    · exact .inl ⟨.inr (.inr ⟨t, rfl⟩), rfl, rfl⟩
    · exact .inl ⟨.inl rfl, rfl, rfl⟩
    · exact .inl ⟨.inl rfl, rfl, rfl⟩
    · exact .inr (.inr (.inl ⟨t, _, by omega, h5, rfl⟩))
    · exact .inr (.inl ⟨t, _, by omega, rfl⟩)

theorem nstep_check (n : Node) (m : Mon) (x : Msg) (h : Agree n m) :
    ∃ m', check (nstep n x).1.dtMinAccel (nstep n x).1.dtMinMag m (nstep n x).2 = some m' ∧ Agree (nstep n x).1 m' := by
  obtain ⟨ha, hm⟩ := h
  rcases nstep_cases n x with ⟨hq, hA, hM⟩ | ⟨t, dt, hpos, hx⟩ | ⟨t, dt, hpos, hdue, hx⟩ | ⟨t, hdue, hx⟩
  · refine ⟨m, ?_, by rw [Agree, hA, hM]; exact ⟨ha, hm⟩⟩
    rcases hq with h0 | ⟨t, h0⟩ | ⟨t, h0⟩ <;> rw [h0] <;> rfl
  · rw [hx]
    exact ⟨m, by simp [check, hpos], ha, hm⟩
  · rw [hx]
    refine ⟨{ m with lastA := some t }, ?_, Or.inr rfl, hm⟩
    rcases ha with ha | ha <;> simp [check, hpos, ha, hdue]
  · rw [hx]
    refine ⟨{ m with lastM := some t }, ?_, ha, Or.inr rfl⟩
    rcases hm with hm | hm <;> simp [check, hm, hdue]

/-- for EVERY message history (any timing, out-of-order stamps, parameter updates in between) the monitor accepts -/
theorem monitor_ok (xs : List Msg) : ∀ (n : Node) (m : Mon), Agree n m → monitor n m xs = true := by
  induction xs with
  | nil => intro n m _; rfl
  | cons x xs ih =>
    intro n m h
    obtain ⟨m', hc, hag⟩ := nstep_check n m x h
    simp only [monitor, hc]
    exact ih _ _ hag

/-- what each action a step emits guarantees -/
theorem nstep_act (n : Node) (x : Msg) (a : Act) : a ∈ (nstep n x).2 →
    match a with
    | .predict _ dt => 0 < dt
    | .accel t => t - n.tAccel ≥ n.dtMinAccel - timeEps ∧ (nstep n x).1.tAccel = t
    | .mag t => t - n.tMag ≥ n.dtMinMag - timeEps ∧ (nstep n x).1.tMag = t
    | _ => True := by
  rcases nstep_cases n x with ⟨h0 | ⟨_, h0⟩ | ⟨_, h0⟩, -⟩ | ⟨t, dt, hpos, hx⟩ | ⟨t, dt, hpos, hdue, hx⟩ | ⟨t, hdue, hx⟩
  · rw [h0]; exact fun h => nomatch h
  · rw [h0, List.mem_singleton]; rintro rfl; trivial
  · rw [h0, List.mem_singleton]; rintro rfl; trivial
  · rw [hx, List.mem_singleton]; rintro rfl; exact hpos
  · rw [hx, List.mem_cons, List.mem_singleton]
    rintro (rfl | rfl)
    exacts [hpos, ⟨hdue, rfl⟩]
  · rw [hx, List.mem_singleton]; rintro rfl; exact ⟨hdue, rfl⟩

theorem predict_dt_pos (n : Node) (x : Msg) (t dt : Int) (h : Act.predict t dt ∈ (nstep n x).2) : 0 < dt :=
  nstep_act n x _ h

theorem accel_spacing (n : Node) (x : Msg) (t : Int) (h : Act.accel t ∈ (nstep n x).2) :
    t - n.tAccel ≥ n.dtMinAccel - timeEps ∧ (nstep n x).1.tAccel = t :=
  nstep_act n x _ h

theorem mag_spacing (n : Node) (x : Msg) (t : Int) (h : Act.mag t ∈ (nstep n x).2) :
    t - n.tMag ≥ n.dtMinMag - timeEps ∧ (nstep n x).1.tMag = t :=
  nstep_act n x _ h

end C20
