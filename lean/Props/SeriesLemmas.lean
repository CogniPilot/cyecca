/-
  Props/SeriesLemmas.lean — facts about the translated SERIES / SQUARED_SERIES entries
  (`Gen.Series.*`, `Gen.SqSeries.*`, regenerated from cyecca/symbolic.py): which branch is
  selected and what the closed-form branch equals.  Shared by C02, C03, C05, C06, C08.
  The entries are tagged `cas_series`, not `cas_defs`: unfolding a program with `cas_defs` leaves its calls
  `SqSeries.f (…)` as calls, and only `simp only [cas_series, cas_real]` (here and in C06) opens an entry.
  Every entry is `if |x| < eps then <Taylor polynomial> else <closed form>`; "on the closed-form cell" means eps ≤ |x|
  (eps ≤ u for the squared-argument entries, whose argument is u = θ² ≥ 0).
-/
import Cas.Real
import Gen.Series
import Lib.RotExp
import Lib.ExpForms

open Gen RotExp Rot

namespace SeriesLemmas

/-- the switch threshold: the double nearest to 1e-3 -/
noncomputable def eps : ℝ := 1152921504606847 * (2:ℝ) ^ (-60:ℤ)

theorem eps_pos : 0 < eps := by unfold eps; positivity

theorem eps_bounds : (999999 / 1000000000 : ℝ) < eps ∧ eps < 1000001 / 1000000000 := by
  unfold eps; constructor <;> norm_num

/-- `pow(u, -1/2)` as the programs write it -/
theorem rpow_neg_half {u : ℝ} (hu : 0 < u) : u.rpow (-1 * 2 ^ (-1:ℤ)) = 1 / Real.sqrt u := by
  have : (-1 : ℝ) * 2 ^ (-1:ℤ) = -(1 / 2) := by norm_num
  show u ^ ((-1 : ℝ) * 2 ^ (-1:ℤ)) = _
  rw [this, Real.rpow_neg hu.le, Real.sqrt_eq_rpow, one_div, one_div]

/-- `pow(u, -3/2)` as the programs write it -/
theorem rpow_neg_three_half {u : ℝ} (hu : 0 < u) : u.rpow (-3 * 2 ^ (-1:ℤ)) = 1 / Real.sqrt u ^ 3 := by
  have e : (-3 : ℝ) * 2 ^ (-1:ℤ) = -(3 * (1 / 2)) := by norm_num
  show u ^ ((-3 : ℝ) * 2 ^ (-1:ℤ)) = _
  rw [e, Real.rpow_neg hu.le, Real.sqrt_eq_rpow, ← Real.rpow_natCast, ← Real.rpow_mul hu.le, one_div]
  norm_num

theorem sqrt_quarter (u : ℝ) : Real.sqrt (u / 4) = Real.sqrt u / 2 := by
  rw [Real.sqrt_div' u (by norm_num : (0:ℝ) ≤ 4), show (4:ℝ) = 2 ^ 2 by norm_num, Real.sqrt_sq (by norm_num)]

theorem not_small' {x : ℝ} (hx : eps ≤ |x|) : ¬ |x| < 1152921504606847 * (2:ℝ) ^ (-60:ℤ) := not_lt.mpr hx

theorem not_small {u : ℝ} (hu : eps ≤ u) : ¬ |u| < 1152921504606847 * (2:ℝ) ^ (-60:ℤ) :=
  not_small' (hu.trans (le_abs_self u))

theorem pos_of_cell {u : ℝ} (hu : eps ≤ u) : 0 < u := lt_of_lt_of_le eps_pos hu

theorem ne_zero_of_cell {x : ℝ} (hx : eps ≤ |x|) : x ≠ 0 :=
  abs_pos.mp (lt_of_lt_of_le eps_pos hx)

theorem sq_sin_x_over_x_closed {u : ℝ} (hu : eps ≤ u) :
    SqSeries.sin_x_over_x u = sFun (Real.sqrt u) := by
  have hpos := pos_of_cell hu
  simp only [cas_series, cas_real]
  rw [if_neg (not_small hu), rpow_neg_half hpos, sFun, if_neg (Real.sqrt_pos.mpr hpos).ne']; ring

theorem sq_one_minus_cos_over_x2_closed {u : ℝ} (hu : eps ≤ u) :
    SqSeries.one_minus_cos_over_x2 u = cFun (Real.sqrt u) := by
  have hpos := pos_of_cell hu
  simp only [cas_series, cas_real]
  rw [if_neg (not_small hu), cFun, if_neg (Real.sqrt_pos.mpr hpos).ne', Real.sq_sqrt hpos.le]

theorem sq_x_minus_sin_over_x3_closed {u : ℝ} (hu : eps ≤ u) :
    SqSeries.x_minus_sin_over_x3 u = dFun (Real.sqrt u) := by
  have hpos := pos_of_cell hu
  simp only [cas_series, cas_real]
  rw [if_neg (not_small hu), rpow_neg_three_half hpos, dFun, if_neg (Real.sqrt_pos.mpr hpos).ne']; ring

theorem sq_cos_x_closed {u : ℝ} (hu : eps ≤ u) : SqSeries.cos_x u = Real.cos (Real.sqrt u) := by
  simp only [cas_series, cas_real]
  rw [if_neg (not_small hu)]

theorem sq_tan_quarter_over_x_closed {u : ℝ} (hu : eps ≤ u) :
    SqSeries.tan_quarter_over_x u = Real.tan (Real.sqrt u / 4) / Real.sqrt u := by
  simp only [cas_series, cas_real]
  rw [if_neg (not_small hu), rpow_neg_half (pos_of_cell hu),
    show (1:ℝ) * 2 ^ (-2:ℤ) * Real.sqrt u = Real.sqrt u / 4 by norm_num; ring]
  ring

theorem sq_four_atan_over_x_closed {u : ℝ} (hu : eps ≤ u) :
    SqSeries.four_atan_over_x u = 4 * Real.arctan (Real.sqrt u) / Real.sqrt u := by
  simp only [cas_series, cas_real]
  rw [if_neg (not_small hu), rpow_neg_half (pos_of_cell hu)]; ring

theorem sq_half_x2_plus_cos_minus_one_over_x4_closed {u : ℝ} (hu : eps ≤ u) :
    SqSeries.half_x2_plus_cos_minus_one_over_x4 u = eFun (Real.sqrt u) := by
  have hs : Real.sqrt u ^ 2 = u := Real.sq_sqrt (pos_of_cell hu).le
  simp only [cas_series, cas_real]
  rw [if_neg (not_small hu), eFun, show (4:ℕ) = 2 + 2 by rfl, pow_add, hs]
  norm_num
  ring

/-- the inverse-Jacobian coefficient (cos θ ≠ 1: all θ in [√eps, 2π)) -/
theorem jinv_coeff_closed (u : ℝ) (h : eps ≤ u) (hc : Real.cos (Real.sqrt u) ≠ 1) :
    SqSeries.jinv_coeff u
      = 1 / u + Real.sin (Real.sqrt u) / (2 * Real.sqrt u * (Real.cos (Real.sqrt u) - 1)) := by
  have hu := pos_of_cell h
  have hc' : Real.cos (Real.sqrt u) - 1 ≠ 0 := sub_ne_zero.mpr hc
  have hc'' : -1 + Real.cos (Real.sqrt u) ≠ 0 := by rw [neg_add_eq_sub]; exact hc'
  have hs : Real.sqrt u ≠ 0 := (Real.sqrt_pos.mpr hu).ne'
  simp only [cas_series, cas_real]
  rw [if_neg (not_small h), rpow_neg_half hu]
  field_simp
  ring

theorem sin_x_over_x_closed {x : ℝ} (hx : eps ≤ |x|) : Series.sin_x_over_x x = sFun x := by
  simp only [cas_series, cas_real]
  rw [if_neg (not_small' hx), sFun, if_neg (ne_zero_of_cell hx)]

theorem one_minus_cos_over_x_closed {x : ℝ} (hx : eps ≤ |x|) :
    Series.one_minus_cos_over_x x = x * cFun x := by
  have h0 := ne_zero_of_cell hx
  simp only [cas_series, cas_real]
  rw [if_neg (not_small' hx), cFun, if_neg h0]; field_simp

theorem x_over_sin_x_closed {x : ℝ} (hx : eps ≤ |x|) : Series.x_over_sin_x x = x / Real.sin x := by
  simp only [cas_series, cas_real]
  rw [if_neg (not_small' hx)]

theorem sin_x_over_x_zero : Series.sin_x_over_x (0:ℝ) = 1 := by simp [cas_series, cas_real]
theorem one_minus_cos_over_x_zero : Series.one_minus_cos_over_x (0:ℝ) = 0 := by simp [cas_series, cas_real]
theorem sq_sin_x_over_x_zero : SqSeries.sin_x_over_x (0:ℝ) = 1 := by simp [cas_series, cas_real]
theorem sq_one_minus_cos_over_x2_zero : SqSeries.one_minus_cos_over_x2 (0:ℝ) = 1 / 2 := by
  simp [cas_series, cas_real]
theorem sq_cos_x_zero : SqSeries.cos_x (0:ℝ) = 1 := by simp [cas_series, cas_real]
theorem sq_tan_quarter_over_x_zero : SqSeries.tan_quarter_over_x (0:ℝ) = 1 / 4 := by
  simp [cas_series, cas_real]; norm_num

end SeriesLemmas
