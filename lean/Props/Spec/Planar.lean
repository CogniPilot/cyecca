/-
  Props/Spec/Planar.lean — what the translated programs of so(2), se(2), ℝ², ℝ³ and of SO(2), SE(2), ℝ², ℝ³ ARE, in the
  terms of Lib: one statement per program (`Gen.*`, regenerated from cyecca/lie/group_{so2,se2,rn}.py), proved by
  unfolding it.  Props/C01, C02, C04 reason from these statements.
  ℝⁿ is the affine group with linear part 1, its algebra the translation part alone.
-/
import GenM.SO2
import GenM.SE2
import GenM.Rn
import Lib.Semidirect

namespace Spec
open Gen Rot

/-! ## algebras: `to_Matrix` is the hat map, linear and injective (the parameters are read back off the matrix);
    the bracket (cyecca forms X^ Y^ − Y^ X^ symbolically and reads the components off; so(2), ℝⁿ: returns zero) -/

theorem so2_toMatrix (x : ℝ) : so2.toMatrix.M_mat x = so2Hat x := by
  simp only [cas_defs, cas_real, so2Hat, Int.cast_zero]

theorem se2_toMatrix (x : Fin 3 → ℝ) : se2.toMatrix.M_mat x = se2Hat (x 0) (x 1) (x 2) := by
  simp only [cas_defs, cas_real, se2Hat, Int.cast_zero]

theorem r2_toMatrix (x : Fin 2 → ℝ) : r2.toMatrix.M_mat x = se2Hat (x 0) (x 1) 0 := by
  simp only [cas_defs, cas_real, se2Hat, Int.cast_zero, neg_zero]

theorem r3_toMatrix (x : Fin 3 → ℝ) : r3.toMatrix.M_mat x = se3Hat x 0 := by
  simp only [cas_defs, cas_real, se3Hat, Int.cast_zero, Pi.zero_apply, neg_zero]

theorem se2_toMatrix_linear : IsLinearMap ℝ (fun x : Fin 3 → ℝ => se2.toMatrix.M_mat x) := by
  constructor <;> intros <;>
    simp only [se2_toMatrix, se2Hat, Pi.add_apply, Pi.smul_apply, mat_lit, neg_add, mul_neg, add_zero, mul_zero]

theorem se2_toMatrix_injective : Function.Injective (fun x : Fin 3 → ℝ => se2.toMatrix.M_mat x) :=
  Function.LeftInverse.injective (g := fun M => ![M 0 2, M 1 2, M 1 0]) fun x => by
    funext i; fin_cases i <;> simp [se2_toMatrix, se2Hat]

theorem so2_bracket (x y : ℝ) : so2.bracket.r x y = 0 := by
  simp only [cas_defs, cas_real, Int.cast_zero]

theorem so2_ad (x : ℝ) : so2.ad.M x = 0 := by
  simp only [cas_defs, cas_real, Int.cast_zero]

theorem se2_bracket (x y : Fin 3 → ℝ) :
    se2.bracket.r_vec x y = ![y 2 * x 1 - x 2 * y 1, x 2 * y 0 - y 2 * x 0, 0] := by
  rw [se2.bracket.r_vec]
  lit_entries <;> simp only [cas_defs, cas_real, Int.cast_zero]

theorem se2_ad (x : Fin 3 → ℝ) : se2.ad.M_mat x = se2Hat (x 1) (-x 0) (x 2) := by
  simp only [cas_defs, cas_real, se2Hat, Int.cast_zero]

theorem r2_bracket (x y : Fin 2 → ℝ) : r2.bracket.r_vec x y = 0 := by
  funext i; fin_cases i <;> simp [cas_defs, cas_real]

theorem r3_bracket (x y : Fin 3 → ℝ) : r3.bracket.r_vec x y = 0 := by
  funext i; fin_cases i <;> simp [cas_defs, cas_real]

theorem r2_ad (x : Fin 2 → ℝ) : r2.ad.M_mat x = 0 := by
  mat_entries <;> simp [cas_defs, cas_real]

theorem r3_ad (x : Fin 3 → ℝ) : r3.ad.M_mat x = 0 := by
  mat_entries <;> simp [cas_defs, cas_real]

theorem SO2_toMatrix (a : ℝ) : SO2.toMatrix.M_mat a = rot2 a := by
  simp only [cas_defs, cas_real, rot2]

theorem SO2_product (a b : ℝ) : SO2.product.r a b = a + b := by simp only [cas_defs, cas_real]

theorem SO2_inverse (a : ℝ) : SO2.inverse.r a = -a := by simp only [cas_defs, cas_real]

theorem SO2_identity : SO2.identity.r (α := ℝ) = 0 := by simp only [cas_defs, cas_real, Int.cast_zero]

theorem SO2_Ad (a : ℝ) : SO2.Ad.M a = 1 := by simp only [cas_defs, cas_real, Int.cast_one]

theorem SO2_exp (x : ℝ) : SO2.exp.r x = x := by simp only [cas_defs, cas_real]

theorem SO2_fromMatrix (M : Fin 2 → Fin 2 → ℝ) : SO2.fromMatrix.r M = CasReal.atan2 (M 1 0) (M 0 0) := by
  simp only [cas_defs, cas_real]

theorem SE2_toMatrix (a : Fin 3 → ℝ) : SE2.toMatrix.M_mat a = se2Mat (rot2 (a 2)) ![a 0, a 1] := by
  rw [← SO2_toMatrix]
  simp only [cas_defs, cas_real, se2Mat, Matrix.cons_val, Matrix.of_apply]

theorem SE2_product (a b : Fin 3 → ℝ) :
    SE2.product.r_vec a b = ![Real.cos (a 2) * b 0 - Real.sin (a 2) * b 1 + a 0,
      Real.sin (a 2) * b 0 + Real.cos (a 2) * b 1 + a 1, a 2 + b 2] := by
  simp only [cas_defs, cas_real]

/-- cyecca applies the matrix of the inverse rotation (CasADi leaves sin(−θ), simplifies cos(−θ)) -/
theorem SE2_inverse (a : Fin 3 → ℝ) :
    SE2.inverse.r_vec a = ![-(Real.cos (a 2) * a 0 - Real.sin (-a 2) * a 1),
      -(Real.sin (-a 2) * a 0 + Real.cos (a 2) * a 1), -a 2] := by
  simp only [cas_defs, cas_real]

theorem SE2_fromMatrix (M : Fin 3 → Fin 3 → ℝ) :
    SE2.fromMatrix.r_vec M = ![M 0 2, M 1 2, CasReal.atan2 (M 1 0) (M 0 0)] := by
  simp only [cas_defs, cas_real]

theorem SE2_identity : SE2.identity.r_vec (α := ℝ) = 0 := by
  funext i; fin_cases i <;> simp [cas_defs, cas_real]

theorem SE2_Ad (a : Fin 3 → ℝ) : SE2.Ad.M_mat a = se2Mat (rot2 (a 2)) ![a 1, -a 0] := by
  rw [← SO2_toMatrix]
  simp only [cas_defs, cas_real, se2Mat, Matrix.cons_val, Matrix.of_apply, Int.cast_zero, Int.cast_one]

theorem R2_toMatrix (a : Fin 2 → ℝ) : R2.toMatrix.M_mat a = se2Mat 1 a := by
  simp only [cas_defs, cas_real, se2Mat, Matrix.one_apply_eq, Matrix.one_apply_ne, ne_eq, Fin.isValue, Fin.reduceEq,
    not_false_eq_true, Int.cast_zero, Int.cast_one]

theorem R3_toMatrix (a : Fin 3 → ℝ) : R3.toMatrix.M_mat a = se3Mat 1 a := by
  simp only [cas_defs, cas_real, se3Mat, Matrix.one_apply_eq, Matrix.one_apply_ne, ne_eq, Fin.isValue, Fin.reduceEq,
    not_false_eq_true, Int.cast_zero, Int.cast_one]

theorem R2_product (a b : Fin 2 → ℝ) : R2.product.r_vec a b = a + b := by
  funext i; fin_cases i <;> simp [cas_defs, cas_real]

theorem R3_product (a b : Fin 3 → ℝ) : R3.product.r_vec a b = a + b := by
  funext i; fin_cases i <;> simp [cas_defs, cas_real]

theorem R2_inverse (a : Fin 2 → ℝ) : R2.inverse.r_vec a = -a := by
  funext i; fin_cases i <;> simp [cas_defs, cas_real]

theorem R3_inverse (a : Fin 3 → ℝ) : R3.inverse.r_vec a = -a := by
  funext i; fin_cases i <;> simp [cas_defs, cas_real]

theorem R2_identity : R2.identity.r_vec (α := ℝ) = 0 := by
  funext i; fin_cases i <;> simp [cas_defs, cas_real]

theorem R3_identity : R3.identity.r_vec (α := ℝ) = 0 := by
  funext i; fin_cases i <;> simp [cas_defs, cas_real]

theorem R2_Ad (a : Fin 2 → ℝ) : R2.Ad.M_mat a = 1 := by
  mat_entries <;> simp [cas_defs, cas_real]

theorem R3_Ad (a : Fin 3 → ℝ) : R3.Ad.M_mat a = 1 := by
  mat_entries <;> simp [cas_defs, cas_real]

theorem R2_exp (x : Fin 2 → ℝ) : R2.exp.r_vec x = x := by
  funext i; fin_cases i <;> simp [cas_defs, cas_real]

theorem R3_exp (x : Fin 3 → ℝ) : R3.exp.r_vec x = x := by
  funext i; fin_cases i <;> simp [cas_defs, cas_real]

theorem SE2_exp (x : Fin 3 → ℝ) :
    SE2.exp.r_vec x = ![Series.sin_x_over_x (x 2) * x 0 - Series.one_minus_cos_over_x (x 2) * x 1,
      Series.one_minus_cos_over_x (x 2) * x 0 + Series.sin_x_over_x (x 2) * x 1, x 2] := by
  rw [SE2.exp.r_vec]
  lit_entries <;> simp only [cas_defs, cas_real]

end Spec
