/-
  Props/Spec/SE23.lean — what the translated programs of se₂(3) and of SE₂(3) in quaternion and MRP form ARE, as in
  Props/Spec/SE3.lean (`se23Hat`, `se23Mat`, `se23AdMat`), but for the exponential, whose exposed matrix is unfolded in
  Props/C02S.  cyecca: p' = p_a + R_a p_b, v' = v_a + R_a v_b; the inverse
  applies the matrix of the inverse rotation, which CasADi simplifies to the transposed entries.
-/
import GenM.SE23
import Props.Spec.SO3
import Lib.AdBlocks

namespace Spec
open Gen Rot

theorem se23_toMatrix (x : Fin 9 → ℝ) :
    se23.toMatrix.M_mat x = se23Hat ![x 0, x 1, x 2] ![x 3, x 4, x 5] ![x 6, x 7, x 8] := by
  simp only [cas_defs, cas_real, se23Hat, Int.cast_zero, Matrix.cons_val]

theorem se23_toMatrix_linear : IsLinearMap ℝ (fun x : Fin 9 → ℝ => se23.toMatrix.M_mat x) := by
  constructor <;> intros <;>
    simp only [se23_toMatrix, se23Hat, Pi.add_apply, Pi.smul_apply, mat_lit, Matrix.cons_val, neg_add, mul_neg,
      add_zero, mul_zero]

theorem se23_toMatrix_injective : Function.Injective (fun x : Fin 9 → ℝ => se23.toMatrix.M_mat x) :=
  Function.LeftInverse.injective
    (g := fun M => ![M 0 4, M 1 4, M 2 4, M 0 3, M 1 3, M 2 3, M 2 1, M 0 2, M 1 0]) fun x => by
    funext i; fin_cases i <;> simp [se23_toMatrix, se23Hat]

theorem se23_bracket_v (x y : Fin 9 → ℝ) :
    ![se23.bracket.r_vec x y 0, se23.bracket.r_vec x y 1, se23.bracket.r_vec x y 2]
      = (hat ![x 6, x 7, x 8]).mulVec ![y 0, y 1, y 2] - (hat ![y 6, y 7, y 8]).mulVec ![x 0, x 1, x 2] := by
  rw [se23.bracket.r_vec, mulVec_fin_three, mulVec_fin_three]
  simp only [hat, Matrix.cons_val, Matrix.of_apply, mat_lit]
  lit_entries <;> simp only [cas_defs, cas_real] <;> ring

theorem se23_bracket_a (x y : Fin 9 → ℝ) :
    ![se23.bracket.r_vec x y 3, se23.bracket.r_vec x y 4, se23.bracket.r_vec x y 5]
      = (hat ![x 6, x 7, x 8]).mulVec ![y 3, y 4, y 5] - (hat ![y 6, y 7, y 8]).mulVec ![x 3, x 4, x 5] := by
  rw [se23.bracket.r_vec, mulVec_fin_three, mulVec_fin_three]
  simp only [hat, Matrix.cons_val, Matrix.of_apply, mat_lit]
  lit_entries <;> simp only [cas_defs, cas_real] <;> ring

theorem se23_bracket_w (x y : Fin 9 → ℝ) :
    ![se23.bracket.r_vec x y 6, se23.bracket.r_vec x y 7, se23.bracket.r_vec x y 8]
      = cross ![x 6, x 7, x 8] ![y 6, y 7, y 8] := by
  rw [se23.bracket.r_vec, cross]
  simp only [Matrix.cons_val]
  lit_entries <;> simp only [cas_defs, cas_real] <;> ring

theorem SE23Quat_toMatrix (a : Fin 10 → ℝ) :
    SE23Quat.toMatrix.M_mat a = se23Mat (qmat ![a 6, a 7, a 8, a 9]) ![a 3, a 4, a 5] ![a 0, a 1, a 2] := by
  rw [← SO3Quat_toMatrix]
  simp only [cas_defs, cas_real, se23Mat, Matrix.cons_val, Matrix.of_apply]

theorem SE23Quat_product_rot (a b : Fin 10 → ℝ) :
    ![SE23Quat.product.r_vec a b 6, SE23Quat.product.r_vec a b 7, SE23Quat.product.r_vec a b 8,
        SE23Quat.product.r_vec a b 9]
      = qmul ![a 6, a 7, a 8, a 9] ![b 6, b 7, b 8, b 9] := by
  rw [← SO3Quat_product]
  simp only [cas_defs, cas_real, Matrix.cons_val]

theorem SE23Quat_product_pos (a b : Fin 10 → ℝ) :
    ![SE23Quat.product.r_vec a b 0, SE23Quat.product.r_vec a b 1, SE23Quat.product.r_vec a b 2]
      = ![a 0, a 1, a 2] + (qmat ![a 6, a 7, a 8, a 9]).mulVec ![b 0, b 1, b 2] := by
  rw [← SO3Quat_toMatrix, SE23Quat.product.r_vec, mulVec_fin_three]
  simp only [Matrix.cons_val, SO3Quat.toMatrix.M_mat, Matrix.of_apply, mat_lit]
  lit_entries <;> simp only [cas_defs, cas_real, Matrix.cons_val]

theorem SE23Quat_product_vel (a b : Fin 10 → ℝ) :
    ![SE23Quat.product.r_vec a b 3, SE23Quat.product.r_vec a b 4, SE23Quat.product.r_vec a b 5]
      = ![a 3, a 4, a 5] + (qmat ![a 6, a 7, a 8, a 9]).mulVec ![b 3, b 4, b 5] := by
  rw [← SO3Quat_toMatrix, SE23Quat.product.r_vec, mulVec_fin_three]
  simp only [Matrix.cons_val, SO3Quat.toMatrix.M_mat, Matrix.of_apply, mat_lit]
  lit_entries <;> simp only [cas_defs, cas_real, Matrix.cons_val]

theorem SE23Quat_inverse_rot (a : Fin 10 → ℝ) :
    ![SE23Quat.inverse.r_vec a 6, SE23Quat.inverse.r_vec a 7, SE23Quat.inverse.r_vec a 8, SE23Quat.inverse.r_vec a 9]
      = qconj ![a 6, a 7, a 8, a 9] := by
  simp only [cas_defs, cas_real, qconj, Matrix.cons_val]

theorem SE23Quat_inverse_pos (a : Fin 10 → ℝ) :
    ![SE23Quat.inverse.r_vec a 0, SE23Quat.inverse.r_vec a 1, SE23Quat.inverse.r_vec a 2]
      = -((qmat ![a 6, a 7, a 8, a 9]).transpose.mulVec ![a 0, a 1, a 2]) := by
  rw [← SO3Quat_toMatrix, SE23Quat.inverse.r_vec, mulVec_fin_three]
  simp only [Matrix.cons_val, SO3Quat.toMatrix.M_mat, Matrix.of_apply, Matrix.transpose_apply, mat_lit]
  lit_entries <;> simp only [cas_defs, cas_real, Matrix.cons_val]

theorem SE23Quat_inverse_vel (a : Fin 10 → ℝ) :
    ![SE23Quat.inverse.r_vec a 3, SE23Quat.inverse.r_vec a 4, SE23Quat.inverse.r_vec a 5]
      = -((qmat ![a 6, a 7, a 8, a 9]).transpose.mulVec ![a 3, a 4, a 5]) := by
  rw [← SO3Quat_toMatrix, SE23Quat.inverse.r_vec, mulVec_fin_three]
  simp only [Matrix.cons_val, SO3Quat.toMatrix.M_mat, Matrix.of_apply, Matrix.transpose_apply, mat_lit]
  lit_entries <;> simp only [cas_defs, cas_real, Matrix.cons_val]

theorem SE23Quat_identity : SE23Quat.identity.r_vec (α := ℝ) = ![0, 0, 0, 0, 0, 0, 1, 0, 0, 0] := by
  simp only [cas_defs, cas_real, Int.cast_one, Int.cast_zero]

theorem SE23Quat_Ad (a : Fin 10 → ℝ) :
    SE23Quat.Ad.M_mat a = se23AdMat (qmat ![a 6, a 7, a 8, a 9]) ![a 3, a 4, a 5] ![a 0, a 1, a 2] := by
  rw [← SO3Quat_toMatrix]
  simp only [cas_defs, cas_real, se23AdMat, Matrix.cons_val, Matrix.of_apply, Int.cast_zero]

theorem SE23Mrp_toMatrix (a : Fin 9 → ℝ) :
    SE23Mrp.toMatrix.M_mat a = se23Mat (mrpMat ![a 6, a 7, a 8]) ![a 3, a 4, a 5] ![a 0, a 1, a 2] := by
  rw [← SO3Mrp_toMatrix]
  simp only [cas_defs, cas_real, se23Mat, Matrix.cons_val, Matrix.of_apply]

theorem SE23Mrp_product_rot (a b : Fin 9 → ℝ) :
    ![SE23Mrp.product.r_vec a b 6, SE23Mrp.product.r_vec a b 7, SE23Mrp.product.r_vec a b 8]
      = mrpMul ![a 6, a 7, a 8] ![b 6, b 7, b 8] := by
  rw [← SO3Mrp_product]
  simp only [cas_defs, cas_real, Matrix.cons_val]

theorem SE23Mrp_product_pos (a b : Fin 9 → ℝ) :
    ![SE23Mrp.product.r_vec a b 0, SE23Mrp.product.r_vec a b 1, SE23Mrp.product.r_vec a b 2]
      = ![a 0, a 1, a 2] + (mrpMat ![a 6, a 7, a 8]).mulVec ![b 0, b 1, b 2] := by
  rw [← SO3Mrp_toMatrix, SE23Mrp.product.r_vec, mulVec_fin_three]
  simp only [Matrix.cons_val, SO3Mrp.toMatrix.M_mat, Matrix.of_apply, mat_lit]
  lit_entries <;> simp only [cas_defs, cas_real, Matrix.cons_val]

theorem SE23Mrp_product_vel (a b : Fin 9 → ℝ) :
    ![SE23Mrp.product.r_vec a b 3, SE23Mrp.product.r_vec a b 4, SE23Mrp.product.r_vec a b 5]
      = ![a 3, a 4, a 5] + (mrpMat ![a 6, a 7, a 8]).mulVec ![b 3, b 4, b 5] := by
  rw [← SO3Mrp_toMatrix, SE23Mrp.product.r_vec, mulVec_fin_three]
  simp only [Matrix.cons_val, SO3Mrp.toMatrix.M_mat, Matrix.of_apply, mat_lit]
  lit_entries <;> simp only [cas_defs, cas_real, Matrix.cons_val]

theorem SE23Mrp_inverse_rot (a : Fin 9 → ℝ) :
    ![SE23Mrp.inverse.r_vec a 6, SE23Mrp.inverse.r_vec a 7, SE23Mrp.inverse.r_vec a 8] = -![a 6, a 7, a 8] := by
  simp only [cas_defs, cas_real, Matrix.cons_val, mat_lit]

/- the products a_i a_j in the program are those of (−a_i)(−a_j), in the other order than in `to_Matrix`: `ring` -/
theorem SE23Mrp_inverse_pos (a : Fin 9 → ℝ) :
    ![SE23Mrp.inverse.r_vec a 0, SE23Mrp.inverse.r_vec a 1, SE23Mrp.inverse.r_vec a 2]
      = -((mrpMat ![a 6, a 7, a 8]).transpose.mulVec ![a 0, a 1, a 2]) := by
  rw [← SO3Mrp_toMatrix, SE23Mrp.inverse.r_vec, mulVec_fin_three]
  simp only [Matrix.cons_val, SO3Mrp.toMatrix.M_mat, Matrix.of_apply, Matrix.transpose_apply, mat_lit]
  lit_entries <;> simp only [cas_defs, cas_real, Matrix.cons_val] <;> ring

theorem SE23Mrp_inverse_vel (a : Fin 9 → ℝ) :
    ![SE23Mrp.inverse.r_vec a 3, SE23Mrp.inverse.r_vec a 4, SE23Mrp.inverse.r_vec a 5]
      = -((mrpMat ![a 6, a 7, a 8]).transpose.mulVec ![a 3, a 4, a 5]) := by
  rw [← SO3Mrp_toMatrix, SE23Mrp.inverse.r_vec, mulVec_fin_three]
  simp only [Matrix.cons_val, SO3Mrp.toMatrix.M_mat, Matrix.of_apply, Matrix.transpose_apply, mat_lit]
  lit_entries <;> simp only [cas_defs, cas_real, Matrix.cons_val] <;> ring

theorem SE23Mrp_identity : SE23Mrp.identity.r_vec (α := ℝ) = 0 := by
  funext i; fin_cases i <;> simp [cas_defs, cas_real]

theorem SE23Mrp_Ad (a : Fin 9 → ℝ) :
    SE23Mrp.Ad.M_mat a = se23AdMat (mrpMat ![a 6, a 7, a 8]) ![a 3, a 4, a 5] ![a 0, a 1, a 2] := by
  rw [← SO3Mrp_toMatrix]
  simp only [cas_defs, cas_real, se23AdMat, Matrix.cons_val, Matrix.of_apply, Int.cast_zero]

end Spec
