/-
  Props/Spec/SE3.lean — what the translated programs of se(3) and of SE(3) in quaternion and MRP form ARE: block
  matrices (`se3Hat`, `se3Mat`, `se3AdMat`) over the SO(3) factor's own `to_Matrix` program, the way cyecca builds
  them, rewritten to `qmat` / `mrpMat` by the SO(3) statement — so most proofs are a `simp only` that makes both sides
  the same text.  Parts of a parameter vector are written as literals (`![a 3, a 4, a 5, a 6]`), to which the
  `rot` / `tr` projections of the property files unfold.  exp: R = exp of the rotation part by the SO(3) factor's own
  program, p = J_l(ω) v with so(3)'s `left_jacobian` program.
-/
import GenM.SE3
import Props.Spec.SO3
import Lib.AdBlocks

namespace Spec
open Gen Rot

theorem se3_toMatrix (x : Fin 6 → ℝ) : se3.toMatrix.M_mat x = se3Hat ![x 0, x 1, x 2] ![x 3, x 4, x 5] := by
  simp only [cas_defs, cas_real, se3Hat, Int.cast_zero, Matrix.cons_val]

theorem se3_toMatrix_linear : IsLinearMap ℝ (fun x : Fin 6 → ℝ => se3.toMatrix.M_mat x) := by
  constructor <;> intros <;>
    simp only [se3_toMatrix, se3Hat, Pi.add_apply, Pi.smul_apply, mat_lit, Matrix.cons_val, neg_add, mul_neg,
      add_zero, mul_zero]

theorem se3_toMatrix_injective : Function.Injective (fun x : Fin 6 → ℝ => se3.toMatrix.M_mat x) :=
  Function.LeftInverse.injective (g := fun M => ![M 0 3, M 1 3, M 2 3, M 2 1, M 0 2, M 1 0]) fun x => by
    funext i; fin_cases i <;> simp [se3_toMatrix, se3Hat]

theorem se3_bracket_v (x y : Fin 6 → ℝ) :
    ![se3.bracket.r_vec x y 0, se3.bracket.r_vec x y 1, se3.bracket.r_vec x y 2]
      = (hat ![x 3, x 4, x 5]).mulVec ![y 0, y 1, y 2] - (hat ![y 3, y 4, y 5]).mulVec ![x 0, x 1, x 2] := by
  rw [se3.bracket.r_vec, mulVec_fin_three, mulVec_fin_three]
  simp only [hat, Matrix.cons_val, Matrix.of_apply, mat_lit]
  lit_entries <;> simp only [cas_defs, cas_real] <;> ring

theorem se3_bracket_w (x y : Fin 6 → ℝ) :
    ![se3.bracket.r_vec x y 3, se3.bracket.r_vec x y 4, se3.bracket.r_vec x y 5]
      = cross ![x 3, x 4, x 5] ![y 3, y 4, y 5] := by
  rw [se3.bracket.r_vec, cross]
  simp only [Matrix.cons_val]
  lit_entries <;> simp only [cas_defs, cas_real] <;> ring

theorem SE3Quat_toMatrix (a : Fin 7 → ℝ) :
    SE3Quat.toMatrix.M_mat a = se3Mat (qmat ![a 3, a 4, a 5, a 6]) ![a 0, a 1, a 2] := by
  rw [← SO3Quat_toMatrix]
  simp only [cas_defs, cas_real, se3Mat, Matrix.cons_val, Matrix.of_apply]

theorem SE3Quat_product_rot (a b : Fin 7 → ℝ) :
    ![SE3Quat.product.r_vec a b 3, SE3Quat.product.r_vec a b 4, SE3Quat.product.r_vec a b 5, SE3Quat.product.r_vec a b 6]
      = qmul ![a 3, a 4, a 5, a 6] ![b 3, b 4, b 5, b 6] := by
  rw [SE3Quat.product.r_vec, qmul]
  simp only [Matrix.cons_val]
  lit_entries <;> simp only [cas_defs, cas_real]

theorem SE3Quat_product_tr (a b : Fin 7 → ℝ) :
    ![SE3Quat.product.r_vec a b 0, SE3Quat.product.r_vec a b 1, SE3Quat.product.r_vec a b 2]
      = (qmat ![a 3, a 4, a 5, a 6]).mulVec ![b 0, b 1, b 2] + ![a 0, a 1, a 2] := by
  rw [← SO3Quat_toMatrix, SE3Quat.product.r_vec, mulVec_fin_three]
  simp only [Matrix.cons_val, SO3Quat.toMatrix.M_mat, Matrix.of_apply, mat_lit]
  lit_entries <;> simp only [cas_defs, cas_real, Matrix.cons_val]

theorem SE3Quat_inverse_rot (a : Fin 7 → ℝ) :
    ![SE3Quat.inverse.r_vec a 3, SE3Quat.inverse.r_vec a 4, SE3Quat.inverse.r_vec a 5, SE3Quat.inverse.r_vec a 6]
      = qconj ![a 3, a 4, a 5, a 6] := by
  simp only [cas_defs, cas_real, qconj, Matrix.cons_val]

theorem SE3Quat_inverse_tr (a : Fin 7 → ℝ) :
    ![SE3Quat.inverse.r_vec a 0, SE3Quat.inverse.r_vec a 1, SE3Quat.inverse.r_vec a 2]
      = -((qmat ![a 3, a 4, a 5, a 6]).transpose.mulVec ![a 0, a 1, a 2]) := by
  rw [← SO3Quat_toMatrix, SE3Quat.inverse.r_vec, mulVec_fin_three]
  simp only [Matrix.cons_val, SO3Quat.toMatrix.M_mat, Matrix.of_apply, Matrix.transpose_apply, mat_lit]
  lit_entries <;> simp only [cas_defs, cas_real, Matrix.cons_val]

theorem SE3Quat_identity : SE3Quat.identity.r_vec (α := ℝ) = ![0, 0, 0, 1, 0, 0, 0] := by
  simp only [cas_defs, cas_real, Int.cast_one, Int.cast_zero]

theorem SE3Quat_Ad (a : Fin 7 → ℝ) :
    SE3Quat.Ad.M_mat a = se3AdMat (qmat ![a 3, a 4, a 5, a 6]) ![a 0, a 1, a 2] := by
  rw [← SO3Quat_toMatrix, se3AdMat_eq]
  simp only [cas_defs, cas_real, Matrix.cons_val, Matrix.of_apply, Int.cast_zero]

theorem SE3Mrp_toMatrix (a : Fin 6 → ℝ) :
    SE3Mrp.toMatrix.M_mat a = se3Mat (mrpMat ![a 3, a 4, a 5]) ![a 0, a 1, a 2] := by
  rw [← SO3Mrp_toMatrix]
  simp only [cas_defs, cas_real, se3Mat, Matrix.cons_val, Matrix.of_apply]

theorem SE3Mrp_product_rot (a b : Fin 6 → ℝ) :
    ![SE3Mrp.product.r_vec a b 3, SE3Mrp.product.r_vec a b 4, SE3Mrp.product.r_vec a b 5]
      = mrpMul ![a 3, a 4, a 5] ![b 3, b 4, b 5] := by
  rw [← SO3Mrp_product]
  simp only [cas_defs, cas_real, Matrix.cons_val]

theorem SE3Mrp_product_tr (a b : Fin 6 → ℝ) :
    ![SE3Mrp.product.r_vec a b 0, SE3Mrp.product.r_vec a b 1, SE3Mrp.product.r_vec a b 2]
      = (mrpMat ![a 3, a 4, a 5]).mulVec ![b 0, b 1, b 2] + ![a 0, a 1, a 2] := by
  rw [← SO3Mrp_toMatrix, SE3Mrp.product.r_vec, mulVec_fin_three]
  simp only [Matrix.cons_val, SO3Mrp.toMatrix.M_mat, Matrix.of_apply, mat_lit]
  lit_entries <;> simp only [cas_defs, cas_real, Matrix.cons_val]

theorem SE3Mrp_inverse_rot (a : Fin 6 → ℝ) :
    ![SE3Mrp.inverse.r_vec a 3, SE3Mrp.inverse.r_vec a 4, SE3Mrp.inverse.r_vec a 5] = -![a 3, a 4, a 5] := by
  simp only [cas_defs, cas_real, Matrix.cons_val, mat_lit]

theorem SE3Mrp_inverse_tr (a : Fin 6 → ℝ) :
    ![SE3Mrp.inverse.r_vec a 0, SE3Mrp.inverse.r_vec a 1, SE3Mrp.inverse.r_vec a 2]
      = -((mrpMat ![a 3, a 4, a 5]).transpose.mulVec ![a 0, a 1, a 2]) := by
  rw [← SO3Mrp_toMatrix, SE3Mrp.inverse.r_vec, mulVec_fin_three]
  simp only [Matrix.cons_val, SO3Mrp.toMatrix.M_mat, Matrix.of_apply, Matrix.transpose_apply, mat_lit]
  lit_entries <;> simp only [cas_defs, cas_real, Matrix.cons_val]

theorem SE3Mrp_identity : SE3Mrp.identity.r_vec (α := ℝ) = 0 := by
  funext i; fin_cases i <;> simp [cas_defs, cas_real]

theorem SE3Mrp_Ad (a : Fin 6 → ℝ) :
    SE3Mrp.Ad.M_mat a = se3AdMat (mrpMat ![a 3, a 4, a 5]) ![a 0, a 1, a 2] := by
  rw [← SO3Mrp_toMatrix, se3AdMat_eq]
  simp only [cas_defs, cas_real, Matrix.cons_val, Matrix.of_apply, Int.cast_zero]

theorem SE3Quat_exp_rot (x : Fin 6 → ℝ) :
    ![SE3Quat.exp.r_vec x 3, SE3Quat.exp.r_vec x 4, SE3Quat.exp.r_vec x 5, SE3Quat.exp.r_vec x 6]
      = SO3Quat.exp.r_vec ![x 3, x 4, x 5] := by
  simp only [cas_defs, cas_real, Matrix.cons_val]

theorem SE3Quat_exp_tr (x : Fin 6 → ℝ) :
    ![SE3Quat.exp.r_vec x 0, SE3Quat.exp.r_vec x 1, SE3Quat.exp.r_vec x 2]
      = (so3.left_jacobian.M_mat ![x 3, x 4, x 5]).mulVec ![x 0, x 1, x 2] := by
  rw [SE3Quat.exp.r_vec, mulVec_fin_three]
  simp only [Matrix.cons_val, so3.left_jacobian.M_mat, Matrix.of_apply]
  lit_entries <;> simp only [cas_defs, cas_real, Matrix.cons_val]

theorem SE3Mrp_exp_rot (x : Fin 6 → ℝ) :
    ![SE3Mrp.exp.r_vec x 3, SE3Mrp.exp.r_vec x 4, SE3Mrp.exp.r_vec x 5] = SO3Mrp.exp.r_vec ![x 3, x 4, x 5] := by
  simp only [cas_defs, cas_real, Matrix.cons_val]

theorem SE3Mrp_exp_tr (x : Fin 6 → ℝ) :
    ![SE3Mrp.exp.r_vec x 0, SE3Mrp.exp.r_vec x 1, SE3Mrp.exp.r_vec x 2]
      = (so3.left_jacobian.M_mat ![x 3, x 4, x 5]).mulVec ![x 0, x 1, x 2] := by
  rw [SE3Mrp.exp.r_vec, mulVec_fin_three]
  simp only [Matrix.cons_val, so3.left_jacobian.M_mat, Matrix.of_apply]
  lit_entries <;> simp only [cas_defs, cas_real, Matrix.cons_val]

end Spec
