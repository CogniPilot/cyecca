/-
  Props/Spec/SO3.lean — what the translated programs of so(3) and of SO(3) in quaternion, MRP and DCM form ARE, in
  the terms of Lib (`hat`, `qmat`, `qmul`, `mrpMat`, `mrpMul`): one statement per program (`Gen.*`, regenerated from
  cyecca/lie/group_so3.py), proved by unfolding it.  The MRP rationals are normalised here, once, in
  `SO3Mrp_toMatrix`.  The DCM and quaternion exponentials are stated in the values of the series coefficients the code
  calls (`Gen.SqSeries.*` stay calls; θ² is written out as the code computes it); the MRP one, with its shadow switch, is
  unfolded in Props/C02 (`C02.SO3Mrp_exp_spec`).  Of the Jacobian programs only so(3)'s `left_jacobian` is here (SE(3)'s
  exponential calls it); the others are unfolded in Props/C05.
-/
import GenM.SO3
import Lib.Rot

namespace Spec
open Gen Rot

theorem so3_toMatrix (x : Fin 3 → ℝ) : so3.toMatrix.M_mat x = hat x := by
  simp only [cas_defs, cas_real, hat, Int.cast_zero]

theorem so3_ad (x : Fin 3 → ℝ) : so3.ad.M_mat x = hat x := by
  simp only [cas_defs, cas_real, hat, Int.cast_zero]

theorem so3_toMatrix_linear : IsLinearMap ℝ (fun x : Fin 3 → ℝ => so3.toMatrix.M_mat x) := by
  constructor <;> intros <;>
    simp only [so3_toMatrix, hat, Pi.add_apply, Pi.smul_apply, mat_lit, neg_add, mul_neg, add_zero, mul_zero]

theorem so3_toMatrix_injective : Function.Injective (fun x : Fin 3 → ℝ => so3.toMatrix.M_mat x) :=
  Function.LeftInverse.injective (g := fun M => ![M 2 1, M 0 2, M 1 0]) fun x => by
    funext i; fin_cases i <;> simp [so3_toMatrix, hat]

theorem so3_bracket (x y : Fin 3 → ℝ) : so3.bracket.r_vec x y = cross x y := by
  rw [so3.bracket.r_vec, cross]
  lit_entries <;> simp only [cas_defs, cas_real] <;> ring

theorem SO3Quat_toMatrix (a : Fin 4 → ℝ) : SO3Quat.toMatrix.M_mat a = qmat a := by
  rw [SO3Quat.toMatrix.M_mat, qmat]
  lit_entries <;> simp only [cas_defs, cas_real]

theorem SO3Quat_Ad (a : Fin 4 → ℝ) : SO3Quat.Ad.M_mat a = qmat a := by
  rw [SO3Quat.Ad.M_mat, qmat]
  lit_entries <;> simp only [cas_defs, cas_real]

theorem SO3Quat_product (a b : Fin 4 → ℝ) : SO3Quat.product.r_vec a b = qmul a b := by
  rw [SO3Quat.product.r_vec, qmul]
  lit_entries <;> simp only [cas_defs, cas_real]

theorem SO3Quat_inverse (a : Fin 4 → ℝ) : SO3Quat.inverse.r_vec a = qconj a := by
  simp only [cas_defs, cas_real, qconj]

theorem SO3Quat_identity : SO3Quat.identity.r_vec (α := ℝ) = ![1, 0, 0, 0] := by
  simp only [cas_defs, cas_real, Int.cast_one, Int.cast_zero]

theorem SO3Mrp_toMatrix (r : Fin 3 → ℝ) : SO3Mrp.toMatrix.M_mat r = mrpMat r := by
  have h := one_add_mul_self_ne_zero r
  rw [SO3Mrp.toMatrix.M_mat, mrpMat, qmat]
  simp only [mat_lit]
  lit_entries <;> simp only [cas_defs, cas_real, mrpQ, nsq, Matrix.cons_val] <;> field_simp <;> ring

theorem SO3Mrp_Ad (r : Fin 3 → ℝ) : SO3Mrp.Ad.M_mat r = SO3Mrp.toMatrix.M_mat r := by
  simp only [cas_defs, cas_real]

theorem SO3Mrp_product (a b : Fin 3 → ℝ) : SO3Mrp.product.r_vec a b = mrpMul a b := by
  funext i; fin_cases i <;> simp [cas_defs, cas_real, mrpMul, mrpNum, mrpDen, nsq, dot3, cross] <;> ring

theorem SO3Mrp_inverse (a : Fin 3 → ℝ) : SO3Mrp.inverse.r_vec a = -a := by
  funext i; fin_cases i <;> simp [cas_defs, cas_real]

theorem SO3Mrp_identity : SO3Mrp.identity.r_vec (α := ℝ) = 0 := by
  funext i; fin_cases i <;> simp [cas_defs, cas_real]

theorem SO3Dcm_toMatrix (a : Fin 9 → ℝ) :
    SO3Dcm.toMatrix.M_mat a = !![a 0, a 3, a 6; a 1, a 4, a 7; a 2, a 5, a 8] := by
  simp only [cas_defs, cas_real]

theorem SO3Dcm_Ad (a : Fin 9 → ℝ) : SO3Dcm.Ad.M_mat a = SO3Dcm.toMatrix.M_mat a := by
  simp only [cas_defs, cas_real]

theorem SO3Dcm_product (a b : Fin 9 → ℝ) :
    SO3Dcm.toMatrix.M_mat (SO3Dcm.product.r_vec a b) = SO3Dcm.toMatrix.M_mat a * SO3Dcm.toMatrix.M_mat b := by
  rw [SO3Dcm_toMatrix, SO3Dcm_toMatrix, SO3Dcm_toMatrix, Matrix.mul_fin_three, SO3Dcm.product.r_vec]
  simp only [Matrix.cons_val]
  lit_entries <;> simp only [cas_defs, cas_real]

theorem SO3Dcm_inverse (a : Fin 9 → ℝ) :
    SO3Dcm.toMatrix.M_mat (SO3Dcm.inverse.r_vec a) = (SO3Dcm.toMatrix.M_mat a).transpose := by
  rw [SO3Dcm_toMatrix, SO3Dcm_toMatrix, Matrix.eta_fin_three (Matrix.transpose _)]
  simp only [cas_defs, cas_real, Matrix.cons_val, Matrix.transpose_apply, Matrix.of_apply]

theorem SO3Dcm_identity : SO3Dcm.identity.r_vec (α := ℝ) = ![1, 0, 0, 0, 1, 0, 0, 0, 1] := by
  simp only [cas_defs, cas_real, Int.cast_one, Int.cast_zero]

theorem SO3Dcm_fromMatrix (M : Fin 3 → Fin 3 → ℝ) :
    SO3Dcm.fromMatrix.r_vec M = ![M 0 0, M 1 0, M 2 0, M 0 1, M 1 1, M 2 1, M 0 2, M 1 2, M 2 2] := by
  simp only [cas_defs, cas_real]

theorem so3_left_jacobian (w : Fin 3 → ℝ) :
    so3.left_jacobian.M_mat w
      = 1 + SqSeries.one_minus_cos_over_x2 (w 0 * w 0 + w 1 * w 1 + w 2 * w 2) • hat w
          + SqSeries.x_minus_sin_over_x3 (w 0 * w 0 + w 1 * w 1 + w 2 * w 2) • hat w ^ 2 := by
  rw [so3.left_jacobian.M_mat, pow_two]
  simp only [hat, mat_lit]
  lit_entries <;> simp only [cas_defs, cas_real] <;> ring

theorem SO3Dcm_exp (x : Fin 3 → ℝ) :
    SO3Dcm.toMatrix.M_mat (SO3Dcm.exp.r_vec x)
      = 1 + SqSeries.sin_x_over_x (x 0 * x 0 + x 1 * x 1 + x 2 * x 2) • hat x
          + SqSeries.one_minus_cos_over_x2 (x 0 * x 0 + x 1 * x 1 + x 2 * x 2) • hat x ^ 2 := by
  rw [SO3Dcm_toMatrix, SO3Dcm.exp.r_vec, pow_two]
  simp only [hat, mat_lit, Matrix.cons_val]
  lit_entries <;> simp only [cas_defs, cas_real] <;> ring

theorem SO3Quat_exp (x : Fin 3 → ℝ) :
    SO3Quat.exp.r_vec x
      = ![SqSeries.cos_x ((x 0 * x 0 + x 1 * x 1 + x 2 * x 2) / 4),
          SqSeries.sin_x_over_x ((x 0 * x 0 + x 1 * x 1 + x 2 * x 2) / 4) / 2 * x 0,
          SqSeries.sin_x_over_x ((x 0 * x 0 + x 1 * x 1 + x 2 * x 2) / 4) / 2 * x 1,
          SqSeries.sin_x_over_x ((x 0 * x 0 + x 1 * x 1 + x 2 * x 2) / 4) / 2 * x 2] := by
  rw [SO3Quat.exp.r_vec]
  lit_entries <;> simp only [cas_defs, cas_real]

end Spec
